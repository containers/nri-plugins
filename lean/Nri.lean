import Nri.Props.C01
import Nri.Props.C02
import Nri.Props.C03
import Nri.Props.C04
import Nri.Props.C05
import Nri.Props.C06
import Nri.Props.C07
import Nri.Props.C08
import Nri.Props.C09
import Nri.Props.C10
import Nri.Props.C11
import Nri.Props.C12
import Nri.Props.C13
import Nri.Props.C14
import Nri.Props.C15
import Nri.Props.C16
import Nri.Props.C17
import Nri.Props.C18
import Nri.Props.C19
import Nri.Props.C20
