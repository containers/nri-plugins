import Nri.Model.TopoAware
import Nri.Proofs.Logic
/-! The accounting model of the topology-aware policy, one function at a time: what a successful `alloc` is, then
what `alloc` and `release` do to the free CPU sets (the exclusivity invariant of C01) and to the granted
counters (C09, C13). Core Lean only. -/
namespace Nri.TA

theorem mem_rm (a b : List Nat) (x : Nat) : x ∈ rm a b ↔ x ∈ a ∧ x ∉ b := mem_diff

theorem rm_nil (a : List Nat) : rm a [] = a := List.filter_eq_self.2 fun _ _ => rfl

theorem rm_sub {a b : List Nat} : ∀ x ∈ rm a b, x ∈ a := fun _ h => ((mem_rm ..).1 h).1

theorem not_mem_rm {a b : List Nat} {x : Nat} (h : x ∈ b) : x ∉ rm a b := fun hx => ((mem_rm ..).1 hx).2 h

theorem mem_inter (a b : List Nat) (x : Nat) : x ∈ inter a b ↔ x ∈ a ∧ x ∈ b := Nri.mem_inter

theorem mem_uni (a b : List Nat) (x : Nat) : x ∈ uni a b ↔ x ∈ a ∨ x ∈ b := mem_union

theorem setPool_pools_self (t : TA) (i : Nat) (f : PoolS → PoolS) : (setPool t i f).pools i = f (t.pools i) := by
  simp [setPool]

theorem setPool_pools_ne (t : TA) (f : PoolS → PoolS) {i j : Nat} (h : j ≠ i) : (setPool t i f).pools j = t.pools j := by
  simp [setPool, h]

theorem setPool_eq_self {t : TA} {i : Nat} {f : PoolS → PoolS} (hf : ∀ q, f q = q) : setPool t i f = t := by
  cases t
  unfold setPool
  congr 1
  funext j
  split
  · exact hf _
  · rfl

theorem setPool_pools_rel {R : PoolS → PoolS → Prop} (t : TA) (i : Nat) {f : PoolS → PoolS}
    (hf : ∀ q, R (f q) q) (hr : ∀ q, R q q) (j : Nat) : R ((setPool t i f).pools j) (t.pools j) := by
  by_cases hj : j = i
  · rw [hj, setPool_pools_self]; exact hf _
  · rw [setPool_pools_ne _ _ hj]; exact hr _

/-- the `switch` of `AllocateCPU`: a successful pick is taken from one of pool `i`'s two free sets by a
pool-local update `f`; the empty pick of a request without whole CPUs is filed under the first -/
theorem takeExclusive_ok {t t1 : TA} {i full : Nat} {isolate : Bool} {excl : List Nat}
    (h : takeExclusive t i full isolate excl = .ok t1) :
    excl.length = full ∧ excl.Nodup ∧ ∃ f : PoolS → PoolS,
      ((∀ x ∈ excl, x ∈ (t.pools i).isolated) ∧ f = (fun q => { q with isolated := rm q.isolated excl }) ∨
       (∀ x ∈ excl, x ∈ (t.pools i).sharable) ∧ f = (fun q => { q with sharable := rm q.sharable excl })) ∧
      t1 = setPool t i f := by
  simp only [takeExclusive, ite_eq_iff', reduceCtorEq, and_false, or_false, false_or, Except.ok.injEq,
    Bool.and_eq_true, beq_iff_eq, decide_eq_true_eq, List.all_eq_true, List.contains_iff_mem] at h
  rcases h with ⟨-, ⟨⟨hl, hn⟩, hin⟩, rfl⟩ | ⟨-, ⟨-, ⟨⟨hl, hn⟩, hin⟩, rfl⟩ | ⟨-, hf, he, rfl⟩⟩
  · exact ⟨hl, hn, _, .inl ⟨hin, rfl⟩, rfl⟩
  · exact ⟨hl, hn, _, .inr ⟨hin, rfl⟩, rfl⟩
  · cases List.isEmpty_iff.mp he
    exact ⟨(Nat.eq_zero_of_not_pos hf).symm, .nil, _, .inl ⟨(fun _ h => nomatch h), rfl⟩,
      (setPool_eq_self fun q => by simp only [rm_nil]).symm⟩

/-- all three branches are the one counter update: `sharedPortion`/`reservedPortion` select by the
grant's class; a shared portion is admitted only within `AllocatableSharedCPU` -/
theorem addPortion_ok {t2 t' : TA} {ctr : String} {i fraction : Nat} {ct : CpuType} {excl : List Nat} {g : Grant}
    (h : addPortion t2 ctr i fraction ct excl = .ok (t', g)) :
    g = ⟨ctr, i, ct, excl, fraction⟩ ∧
    t' = setPool t2 i (fun q => { q with grantedShared := q.grantedShared + sharedPortion g,
                                         grantedReserved := q.grantedReserved + reservedPortion g }) ∧
    (0 < fraction → ct = .normal → (fraction : Int) ≤ allocatableShared t2 i) := by
  simp only [addPortion, ite_eq_iff', reduceCtorEq, and_false, false_or, Except.ok.injEq, Prod.mk.injEq,
    Bool.and_eq_true, decide_eq_true_eq, beq_iff_eq] at h
  rcases h with ⟨⟨-, rfl⟩, hcap, rfl, rfl⟩ | ⟨hn, ⟨⟨-, rfl⟩, -, rfl, rfl⟩ | ⟨hr, rfl, rfl⟩⟩
  · exact ⟨rfl, by simp [sharedPortion, reservedPortion], fun _ _ => Int.not_lt.1 hcap⟩
  · exact ⟨rfl, by simp [sharedPortion, reservedPortion], fun _ h => nomatch h⟩
  · -- neither class with a positive fraction: the portion recorded is the fraction, nothing is booked
    have hp : (if ct = .preserve then fraction else 0) = fraction := by cases ct <;> simp_all
    rw [hp]
    refine ⟨rfl, (setPool_eq_self fun q => ?_).symm, fun hf hc => absurd ⟨hf, hc⟩ hn⟩
    cases ct <;> simp_all [sharedPortion, reservedPortion]

section
variable {t t' : TA} {ctr : String} {i full fraction : Nat} {isolate : Bool} {ct : CpuType} {excl : List Nat} {g : Grant}

/-- what a successful `alloc` is: the three stages of `AllocateCPU` as explicit updates of the state -/
theorem alloc_ok (h : alloc t ctr i full fraction isolate ct excl = .ok (t', g)) :
    i < t.tree.length ∧ excl.length = (normReq t i full fraction ct).1 ∧ excl.Nodup ∧
    g = ⟨ctr, i, (normReq t i full fraction ct).2.2, excl, (normReq t i full fraction ct).2.1⟩ ∧
    ∃ f : PoolS → PoolS,
      ((∀ x ∈ excl, x ∈ (t.pools i).isolated) ∧ f = (fun q => { q with isolated := rm q.isolated excl }) ∨
       (∀ x ∈ excl, x ∈ (t.pools i).sharable) ∧ f = (fun q => { q with sharable := rm q.sharable excl })) ∧
      t' = setPool (accountAllocate (setPool t i f) i excl) i (fun q =>
        { q with grantedShared := q.grantedShared + sharedPortion g,
                 grantedReserved := q.grantedReserved + reservedPortion g }) := by
  unfold alloc at h
  split at h
  · cases h
  rename_i hi
  simp only [] at h
  split at h
  · cases h
  rename_i t1 hte
  obtain ⟨hlen, hnd, f, hf, rfl⟩ := takeExclusive_ok hte
  obtain ⟨hg, ht', _⟩ := addPortion_ok h
  exact ⟨Nat.lt_of_not_le hi, hlen, hnd, hg, f, hf, ht'⟩

theorem alloc_frame (h : alloc t ctr i full fraction isolate ct excl = .ok (t', g)) :
    i < t.tree.length ∧ t'.tree = t.tree ∧ t'.grants = t.grants ∧ g.ctr = ctr ∧ g.pool = i ∧ g.exclusive = excl := by
  obtain ⟨hi, _, _, rfl, _, _, rfl⟩ := alloc_ok h
  exact ⟨hi, rfl, rfl, rfl, rfl, rfl⟩

end

/-- static well-formedness of the pool tree, assumed of the tree (C16 proves the disjointness facts for the
supplies its model builds; no theorem derives `TreeWF` from them): within a
pool isolated and sharable CPUs are disjoint; pools that are neither ancestor nor descendant
of each other have disjoint CPUs. -/
structure TreeWF (tree : List PoolT) : Prop where
  kinds : ∀ (j : Nat) (pt : PoolT), tree[j]? = some pt → ∀ x, x ∈ pt.totIsolated → x ∉ pt.totSharable
  unrelated : ∀ (i j : Nat) (pi pj : PoolT), tree[i]? = some pi → tree[j]? = some pj → i ≠ j → related tree i j = false →
    ∀ x, (x ∈ pi.totIsolated ∨ x ∈ pi.totSharable) → ¬ (x ∈ pj.totIsolated ∨ x ∈ pj.totSharable)

/-- free CPUs of a pool are among its own CPUs -/
def FreeWithinTot (t : TA) : Prop :=
  ∀ (j : Nat) (pt : PoolT), t.tree[j]? = some pt →
    (∀ x, x ∈ (t.pools j).isolated → x ∈ pt.totIsolated) ∧ (∀ x, x ∈ (t.pools j).sharable → x ∈ pt.totSharable)

/-- C01 (a),(c): exclusively granted CPUs are pairwise disjoint between grants and occur in no
pool's free isolated or free sharable set. -/
structure ExclInv (t : TA) : Prop where
  notFree : ∀ g ∈ t.grants, ∀ j, j < t.tree.length → ∀ x, x ∈ g.exclusive →
    x ∉ (t.pools j).isolated ∧ x ∉ (t.pools j).sharable
  disjoint : t.grants.Pairwise (fun g h => ∀ x, x ∈ g.exclusive → x ∉ h.exclusive)

/-- every grant's exclusive CPUs are CPUs of the pool it was made at -/
def GrantWithin (t : TA) : Prop :=
  ∀ g ∈ t.grants, ∀ (pt : PoolT), t.tree[g.pool]? = some pt → ∀ x, x ∈ g.exclusive → x ∈ pt.totIsolated ∨ x ∈ pt.totSharable

/-- `disjoint` without regard to the order of the two grants in the list -/
theorem ExclInv.disjoint_of_ne {t : TA} (h : ExclInv t) {a b : Grant} (ha : a ∈ t.grants) (hb : b ∈ t.grants)
    (hne : a ≠ b) : ∀ x, x ∈ a.exclusive → x ∉ b.exclusive := by
  refine List.Pairwise.forall_of_forall_of_flip (R := fun a b => a ≠ b → ∀ x, x ∈ a.exclusive → x ∉ b.exclusive)
    (fun _ _ hn => absurd rfl hn) ?_ ?_ ha hb hne
  · exact h.disjoint.imp fun {a b} hab (_ : a ≠ b) => hab
  · exact h.disjoint.imp fun {a b} hab (_ : b ≠ a) x hb ha => hab x ha hb

def PoolS.freeSub (q' q : PoolS) : Prop :=
  (∀ x ∈ q'.isolated, x ∈ q.isolated) ∧ ∀ x ∈ q'.sharable, x ∈ q.sharable

theorem PoolS.freeSub.refl (q : PoolS) : q.freeSub q := ⟨fun _ => id, fun _ => id⟩

theorem PoolS.freeSub.trans {a b c : PoolS} (h1 : a.freeSub b) (h2 : b.freeSub c) : a.freeSub c :=
  ⟨fun x hx => h2.1 x (h1.1 x hx), fun x hx => h2.2 x (h1.2 x hx)⟩

theorem PoolS.freeSub.not_mem {q' q : PoolS} (h : q'.freeSub q) {x : Nat} (hx : x ∉ q.isolated ∧ x ∉ q.sharable) :
    x ∉ q'.isolated ∧ x ∉ q'.sharable :=
  ⟨fun h' => hx.1 (h.1 x h'), fun h' => hx.2 (h.2 x h')⟩

theorem accountAllocate_freeSub (t : TA) (i : Nat) (excl : List Nat) (j : Nat) :
    ((accountAllocate t i excl).pools j).freeSub (t.pools j) := by
  unfold accountAllocate
  dsimp only
  split
  · exact ⟨rm_sub, rm_sub⟩
  · exact .refl _

section
variable {t t' : TA} {ctr : String} {i full fraction : Nat} {isolate : Bool} {ct : CpuType} {excl : List Nat} {g : Grant}

theorem alloc_free (hwf : TreeWF t.tree) (hfw : FreeWithinTot t)
    (h : alloc t ctr i full fraction isolate ct excl = .ok (t', g)) :
    (∀ j, (t'.pools j).freeSub (t.pools j)) ∧
    (∀ x ∈ excl, x ∈ (t.pools i).isolated ∨ x ∈ (t.pools i).sharable) ∧
    (∀ j, j < t.tree.length → ∀ x ∈ excl, x ∉ (t'.pools j).isolated ∧ x ∉ (t'.pools j).sharable) := by
  obtain ⟨hi, _, _, _, f, hf, ht'⟩ := alloc_ok h
  obtain ⟨pi, hpi⟩ : ∃ pi, t.tree[i]? = some pi := ⟨_, List.getElem?_eq_getElem hi⟩
  -- `f` only shrinks the free sets and leaves none of the pick free at pool `i`: not in the set it
  -- was taken from, and it never was in the other, as a pool's isolated and sharable CPUs are disjoint
  have hsub : ∀ q, (f q).freeSub q := by
    rcases hf with ⟨_, rfl⟩ | ⟨_, rfl⟩
    · exact fun q => ⟨rm_sub, fun _ => id⟩
    · exact fun q => ⟨fun _ => id, rm_sub⟩
  have hgone : ∀ x ∈ excl, x ∉ (f (t.pools i)).isolated ∧ x ∉ (f (t.pools i)).sharable := by
    intro x hx
    have hk := hwf.kinds i pi hpi x
    rcases hf with ⟨hin, rfl⟩ | ⟨hin, rfl⟩
    · exact ⟨not_mem_rm hx, fun h => hk ((hfw i pi hpi).1 x (hin x hx)) ((hfw i pi hpi).2 x h)⟩
    · exact ⟨fun h => hk ((hfw i pi hpi).1 x h) ((hfw i pi hpi).2 x (hin x hx)), not_mem_rm hx⟩
  have hwas : ∀ x ∈ excl, x ∈ (t.pools i).isolated ∨ x ∈ (t.pools i).sharable :=
    fun x hx => hf.elim (fun h => .inl (h.1 x hx)) (fun h => .inr (h.1 x hx))
  -- booking the portion touches no free set
  have hbook (j : Nat) : (t'.pools j).freeSub ((accountAllocate (setPool t i f) i excl).pools j) := by
    rw [ht']; exact setPool_pools_rel _ i (fun _ => .refl _) .refl j
  refine ⟨fun j => ?_, hwas, fun j hj x hx => ?_⟩
  · exact (hbook j).trans ((accountAllocate_freeSub _ i excl j).trans (setPool_pools_rel t i hsub .refl j))
  · refine (hbook j).not_mem ?_
    unfold accountAllocate
    dsimp only
    split
    · exact ⟨not_mem_rm hx, not_mem_rm hx⟩
    rename_i hrel
    by_cases hji : j = i
    · rw [hji, setPool_pools_self]; exact hgone x hx
    · -- an unrelated pool: its CPUs are disjoint from pool `i`'s
      rw [setPool_pools_ne _ _ hji]
      obtain ⟨pj, hpj⟩ : ∃ pj, t.tree[j]? = some pj := ⟨_, List.getElem?_eq_getElem hj⟩
      have hdis := hwf.unrelated i j pi pj hpi hpj (Ne.symm hji) (Bool.eq_false_iff.2 hrel) x
        ((hwas x hx).imp ((hfw i pi hpi).1 x) ((hfw i pi hpi).2 x))
      exact ⟨fun h => hdis (.inl ((hfw j pj hpj).1 x h)), fun h => hdis (.inr ((hfw j pj hpj).2 x h))⟩

/-- **C01 (a),(c) is preserved by every successful allocation**, whatever pool and CPUs the
heuristics pick; so are the two bounds it rests on. -/
theorem alloc_preserves_exclusive (hwf : TreeWF t.tree) (hfw : FreeWithinTot t) (hgw : GrantWithin t) (hinv : ExclInv t)
    (h : alloc t ctr i full fraction isolate ct excl = .ok (t', g)) :
    ExclInv (addGrant t' g) ∧ FreeWithinTot (addGrant t' g) ∧ GrantWithin (addGrant t' g) ∧
    (addGrant t' g).tree = t.tree := by
  obtain ⟨hsub, hwas, hnow⟩ := alloc_free hwf hfw h
  obtain ⟨hi, htree, hgr, _, rfl, rfl⟩ := alloc_frame h
  have e : addGrant t' g = ⟨t.tree, t'.pools, t.grants ++ [g]⟩ := by rw [← htree, ← hgr]; rfl
  rw [e]
  refine ⟨⟨?_, ?_⟩, ?_, ?_, rfl⟩
  · intro g' hg' j hj x hx
    rcases List.mem_append.1 hg' with hold | hnew
    · exact (hsub j).not_mem (hinv.notFree g' hold j hj x hx)
    · cases List.mem_singleton.1 hnew
      exact hnow j hj x hx
  · refine List.pairwise_append.2 ⟨hinv.disjoint, List.pairwise_singleton _ _, ?_⟩
    intro a ha b hb x hxa hxb
    cases List.mem_singleton.1 hb
    -- x was free at pool i before, but a's exclusive CPUs are free nowhere
    have := hinv.notFree a ha g.pool hi x hxa
    exact (hwas x hxb).elim this.1 this.2
  · intro j pt hpt
    exact ⟨fun x hx => (hfw j pt hpt).1 x ((hsub j).1 x hx), fun x hx => (hfw j pt hpt).2 x ((hsub j).2 x hx)⟩
  · intro g' hg' pt hpt x hx
    rcases List.mem_append.1 hg' with hold | hnew
    · exact hgw g' hold pt hpt x hx
    · cases List.mem_singleton.1 hnew
      exact (hwas x hx).imp ((hfw _ pt hpt).1 x) ((hfw _ pt hpt).2 x)

end

@[simp] theorem release_tree (t : TA) (g : Grant) : (release t g).tree = t.tree := by
  unfold release; split <;> rfl

@[simp] theorem release_grants (t : TA) (g : Grant) : (release t g).grants = t.grants := by
  unfold release; split <;> rfl

theorem accountRelease_free (t : TA) (i : Nat) (excl : List Nat) {j : Nat} {pt : PoolT} (hpt : t.tree[j]? = some pt) :
    (∀ x ∈ ((accountRelease t i excl).pools j).isolated, x ∈ (t.pools j).isolated ∨ x ∈ excl ∧ x ∈ pt.totIsolated) ∧
    (∀ x ∈ ((accountRelease t i excl).pools j).sharable, x ∈ (t.pools j).sharable ∨ x ∈ excl ∧ x ∈ pt.totSharable) := by
  simp only [accountRelease, hpt]
  split
  · simp only [mem_uni, mem_inter]
    exact ⟨fun _ h => h, fun _ h => h⟩
  · exact ⟨fun _ h => .inl h, fun _ h => .inl h⟩

theorem release_spec (t : TA) (g : Grant) (hgw : ∀ (pt : PoolT), t.tree[g.pool]? = some pt → ∀ x, x ∈ g.exclusive → x ∈ pt.totIsolated ∨ x ∈ pt.totSharable)
    (j : Nat) (pt : PoolT) (hpt : t.tree[j]? = some pt) :
    (∀ x ∈ ((release t g).pools j).isolated, x ∈ (t.pools j).isolated ∨ x ∈ g.exclusive ∧ x ∈ pt.totIsolated) ∧
    (∀ x ∈ ((release t g).pools j).sharable, x ∈ (t.pools j).sharable ∨ x ∈ g.exclusive ∧ x ∈ pt.totSharable) := by
  unfold release
  split
  · exact ⟨fun x hx => .inl hx, fun x hx => .inl hx⟩
  rename_i pg hpg
  dsimp only
  generalize ht1 : setPool t g.pool _ = t1
  obtain ⟨a1, a2⟩ := accountRelease_free t1 g.pool g.exclusive (pt := pt) (by rw [← ht1]; exact hpt)
  subst ht1
  by_cases hj : j = g.pool
  · -- the grant's own pool gets back the isolated CPUs among them as isolated, the others as sharable
    subst hj
    cases hpt.symm.trans hpg
    rw [setPool_pools_self] at a1 a2
    simp only [mem_uni, mem_inter, mem_rm] at a1 a2
    refine ⟨fun x hx => (a1 x hx).elim id .inr, fun x hx => (a2 x hx).elim (Or.imp_right fun h => ⟨h.1, ?_⟩) .inr⟩
    exact (hgw pt hpt x h.1).resolve_left fun hi => h.2 ⟨h.1, hi⟩
  · rw [setPool_pools_ne _ _ hj] at a1 a2
    exact ⟨a1, a2⟩

/-- **C01 (a),(c) is preserved by releasing a grant.** -/
theorem release_preserves_exclusive (t : TA) (g : Grant) (hg : g ∈ t.grants)
    (hfw : FreeWithinTot t) (hgw : GrantWithin t) (hinv : ExclInv t) :
    ExclInv (dropGrant (release t g) g.ctr) ∧ FreeWithinTot (dropGrant (release t g) g.ctr) ∧
    GrantWithin (dropGrant (release t g) g.ctr) := by
  have hspec := release_spec t g (hgw g hg)
  have e : dropGrant (release t g) g.ctr = ⟨t.tree, (release t g).pools, t.grants.filter (·.ctr != g.ctr)⟩ := by
    rw [← release_tree t g, ← release_grants t g]; rfl
  rw [e]
  -- a grant that stays is another grant than `g`, so disjoint from it
  have hsub : ∀ g', g' ∈ t.grants.filter (·.ctr != g.ctr) → g' ∈ t.grants ∧ ∀ x, x ∈ g'.exclusive → x ∉ g.exclusive := by
    intro g' h
    obtain ⟨hm, hc⟩ := List.mem_filter.1 h
    exact ⟨hm, hinv.disjoint_of_ne hm hg fun e => by simp [e] at hc⟩
  refine ⟨⟨?_, List.Pairwise.filter _ hinv.disjoint⟩, ?_, ?_⟩
  · intro g' hg' j hj x hx
    obtain ⟨hmem, hdisj⟩ := hsub g' hg'
    obtain ⟨h1, h2⟩ := hspec j _ (List.getElem?_eq_getElem hj)
    have hold := hinv.notFree g' hmem j hj x hx
    exact ⟨fun hh => (h1 x hh).elim hold.1 fun h => hdisj x hx h.1, fun hh => (h2 x hh).elim hold.2 fun h => hdisj x hx h.1⟩
  · intro j pt hpt
    obtain ⟨h1, h2⟩ := hspec j pt hpt
    exact ⟨fun x hx => (h1 x hx).elim ((hfw j pt hpt).1 x) (·.2), fun x hx => (h2 x hx).elim ((hfw j pt hpt).2 x) (·.2)⟩
  · exact fun g' hg' => hgw g' (hsub g' hg').1

def SameCounters (a b : TA) : Prop :=
  ∀ j, (a.pools j).grantedShared = (b.pools j).grantedShared ∧ (a.pools j).grantedReserved = (b.pools j).grantedReserved

theorem accountAllocate_counters (t : TA) (i : Nat) (excl : List Nat) : SameCounters (accountAllocate t i excl) t := by
  intro j
  simp only [accountAllocate]
  split <;> exact ⟨rfl, rfl⟩

theorem accountRelease_counters (t : TA) (i : Nat) (excl : List Nat) : SameCounters (accountRelease t i excl) t := by
  intro j
  simp only [accountRelease]
  split
  · split <;> exact ⟨rfl, rfl⟩
  · exact ⟨rfl, rfl⟩

theorem book_counters (t : TA) (i : Nat) (a b : Int) (j : Nat) :
    ((setPool t i fun q => { q with grantedShared := q.grantedShared + a, grantedReserved := q.grantedReserved + b }).pools j).grantedShared
      = (t.pools j).grantedShared + (if i == j then a else 0) ∧
    ((setPool t i fun q => { q with grantedShared := q.grantedShared + a, grantedReserved := q.grantedReserved + b }).pools j).grantedReserved
      = (t.pools j).grantedReserved + (if i == j then b else 0) := by
  by_cases hj : j = i
  · rw [hj, setPool_pools_self]; simp
  · rw [setPool_pools_ne _ _ hj]; simp [Ne.symm hj]

theorem alloc_counters {t t' : TA} {ctr : String} {i full fraction : Nat} {isolate : Bool}
    {ct : CpuType} {excl : List Nat} {g : Grant}
    (h : alloc t ctr i full fraction isolate ct excl = .ok (t', g)) (j : Nat) :
    (t'.pools j).grantedShared = (t.pools j).grantedShared + (if g.pool == j then sharedPortion g else 0) ∧
    (t'.pools j).grantedReserved = (t.pools j).grantedReserved + (if g.pool == j then reservedPortion g else 0) := by
  obtain ⟨_, _, _, rfl, f, hf, rfl⟩ := alloc_ok h
  -- taking the CPUs and the accounting walk leave the counters alone
  have h1 : SameCounters (setPool t i f) t := by
    refine setPool_pools_rel (R := fun q' q => q'.grantedShared = q.grantedShared ∧ q'.grantedReserved = q.grantedReserved)
      t i ?_ (fun _ => ⟨rfl, rfl⟩)
    rcases hf with ⟨_, rfl⟩ | ⟨_, rfl⟩ <;> exact fun _ => ⟨rfl, rfl⟩
  have h2 := accountAllocate_counters (setPool t i f) i excl j
  rw [← (h1 j).1, ← (h1 j).2, ← h2.1, ← h2.2]
  exact book_counters _ i _ _ j

theorem release_counters (t : TA) (g : Grant) (h : g.pool < t.tree.length) (j : Nat) :
    ((release t g).pools j).grantedShared = (t.pools j).grantedShared - (if g.pool == j then sharedPortion g else 0) ∧
    ((release t g).pools j).grantedReserved = (t.pools j).grantedReserved - (if g.pool == j then reservedPortion g else 0) := by
  unfold release
  rw [List.getElem?_eq_getElem h]
  obtain ⟨a1, a2⟩ := accountRelease_counters (setPool t g.pool _) g.pool g.exclusive j
  rw [a1, a2]
  by_cases hj : j = g.pool
  · rw [hj, setPool_pools_self]; simp
  · rw [setPool_pools_ne _ _ hj]; simp [Ne.symm hj]

end Nri.TA
