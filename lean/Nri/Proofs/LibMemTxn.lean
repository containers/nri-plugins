import Nri.Model.LibMemHist
import Nri.Proofs.LibMemOvercommit
import Nri.Proofs.LibMemJournal
/-!
The public operations of libmem in normal form.  `Allocate`, `GetOffer` and `Realloc` all run the
same journaled transaction `St.txn`: move one request of the base state to a target zone, resolve
the overcommit that causes, then commit or revert.  This file alone unfolds the four operations of
a history (`Commit` is `commit_eq` in `LibMemOffer`), each into a *view*; for the three that run a
transaction the view names the base state, the moved request and the target (`Release` runs none).
Every later theorem about an operation is a case analysis over its view.  A failed operation, and
an offer, leave the state `Restored`: as it was, up to the zone table.  Core Lean only.
-/
namespace Nri.LibMem

def St.txn (b : St) (t : Mask) (id : String) : St × Option Err := (b.startJournal.zoneMove t id).handleOvercommit t

/-- what every lemma about a transaction starts from: a request `r` of the well-formed base state `b`
is moved to `t`, a non-empty superset of its zone -/
structure Txn (b : St) (r : Req) (t : Mask) : Prop where
  wf : WF b
  mem : r ∈ b.reqs
  sub : msub r.zone t = true
  ne : t ≠ 0

section
variable {b : St} {r : Req} {t : Mask} (h : Txn b r t)
include h

theorem txn_ids : IdsNodup (b.txn t r.id).1 :=
  (handleOvercommit_pres t (fun _ => True) (fun _ _ _ => trivial) (fun _ _ _ _ _ => trivial) _
    (zoneMove_idsNodup (s := b.startJournal) h.wf.ids t r.id) trivial).1

/-- the combinator for a whole transaction: what holds after the first move and is kept by the moves of
overcommit resolution holds at the transaction's end -/
theorem txn_pres (P : St → Prop) (hamb : ∀ s x, P s → P { s with ambig := x })
    (hmove : ∀ s q nodes, P s → MoveOK s t q nodes → P (s.zoneMove (q.zone ||| nodes) q.id))
    (h0 : P (b.startJournal.zoneMove t r.id)) : P (b.txn t r.id).1 :=
  (handleOvercommit_pres t P hamb hmove _ (zoneMove_idsNodup (s := b.startJournal) h.wf.ids t r.id) h0).2

theorem txn_good : Good b (b.txn t r.id).1 :=
  txn_pres h (Good b) (fun _ _ hg => ⟨hg.ex, hg.nodes, hg.version⟩)
    (fun s q _ hg hm => zoneMove_good b s hg _ (or_ne_zero_right hm.new) q.id) (zoneMove_good b _ (good_start b h.wf) t h.ne r.id)

theorem txn_entries_sup {z : Mask} (hz : z ∈ b.entries) : z ∈ (b.txn t r.id).1.entries :=
  txn_pres h (fun s => z ∈ s.entries) (fun _ _ hs => hs) (fun s _ _ hs _ => zoneMove_entries_sup s _ _ z hs)
    (zoneMove_entries_sup _ _ _ z hz)

end

/-- the zone table contains every assigned zone -/
def Ent (s : St) : Prop := ∀ q ∈ s.reqs, q.zone ≠ 0 → q.zone ∈ s.entries

/-- `s'` is `s` as far as requests, version and nodes go, no journal is open, and the zone table
is still complete if it was: what a failed operation or an offer leaves behind -/
structure Restored (s s' : St) : Prop where
  reqs : s'.reqs = s.reqs
  version : s'.version = s.version
  journal : s'.journal = none
  nodes : s'.nodes = s.nodes
  ent : Ent s → Ent s'

theorem Restored.refl (s : St) (hw : WF s) : Restored s s := ⟨rfl, rfl, hw.journal, rfl, id⟩

theorem Restored.wf {s s' : St} (h : Restored s s') (hw : WF s) : WF s' := ⟨h.journal, h.reqs ▸ hw.ids⟩

theorem cleanup_reqs (s : St) : s.cleanupUnusedZones.reqs = s.reqs := rfl
theorem cleanup_version (s : St) : s.cleanupUnusedZones.version = s.version := rfl

theorem numUsers_ne_zero (s : St) (q : Req) (hq : q ∈ s.reqs) (hz : q.zone ≠ 0) : s.numUsers q.zone ≠ 0 := by
  unfold St.numUsers
  exact fun h => List.ne_nil_of_mem (List.mem_filter.2 ⟨hq, by simp [hz]⟩) (List.length_eq_zero_iff.1 h)

theorem ent_cleanup (s : St) (h : Ent s) : Ent s.cleanupUnusedZones :=
  fun q hq hz => List.mem_filter.2 ⟨h q hq hz, by simpa using numUsers_ne_zero s q hq hz⟩

theorem Restored.cleanup {s s' : St} (h : Restored s s') : Restored s s'.cleanupUnusedZones :=
  ⟨h.reqs, h.version, h.journal, h.nodes, fun he => ent_cleanup s' (h.ent he)⟩

/-- reverting from inside a transaction on `b` restores `b`; `drop` is a request to delete afterwards, `s` the
state the caller compares with (`b` itself, or `b` without the request to drop) -/
theorem Good.revert {b F : St} (hg : Good b F) (hnd : IdsNodup b) (hsup : ∀ z ∈ b.entries, z ∈ F.entries)
    (drop : Option String) (s : St)
    (hs : s.reqs = match drop with | some d => b.reqs.filter (·.id != d) | none => b.reqs)
    (hv : s.version = b.version) (hn : s.nodes = b.nodes) (he : s.entries = b.entries) :
    Restored s (F.revertJournal drop).1 := by
  obtain ⟨-, h1, h2⟩ := revert_spec b F hg hnd drop
  obtain ⟨f1, f2, f3⟩ := revertJournal_frame F drop
  refine ⟨h1.trans hs.symm, (f2.trans hg.version).trans hv.symm, h2, (f1.trans hg.nodes).trans hn.symm, fun hent q hq hz => ?_⟩
  exact f3 _ (hsup _ (he ▸ hent q (h1.trans hs.symm ▸ hq) hz))

/-- the state `allocate` works on after inserting the new (unassigned) request -/
def withNew (s : St) (r : Req) : St := { s with reqs := s.reqs ++ [{ r with zone := 0 }] }

@[simp] theorem mem_withNew (s : St) (r q : Req) : q ∈ (withNew s r).reqs ↔ q ∈ s.reqs ∨ q = { r with zone := 0 } := by
  simp [withNew]

/-- the transaction of `allocate` for the validated request `r'` -/
abbrev St.allocTxn (s : St) (r' : Req) : St × Option Err := (withNew s r').txn r'.zone r'.id

/-- `r'` is what `allocate` makes of a request `r` that passes validation: validated types, an
initial zone extended until it contains normal memory -/
def Validated (s : St) (r r' : Req) : Prop :=
  ∃ t1 z1 z2 t2, s.validateRequest r = .ok t1 ∧ s.findInitialZone { r with types := t1 } = .ok z1 ∧
    s.ensureNormalMemory { r with types := t1, zone := z1 } = .ok (z2, t2) ∧ r' = { r with types := t2, zone := z2 }

theorem ensureNormalLoop_spec (s : St) (types : Nat) :
    ∀ (fuel : Nat) (zone z' : Mask), s.ensureNormalLoop types fuel zone = some z' → z' &&& s.normalMask ≠ 0 := by
  intro fuel
  induction fuel with
  | zero => intro zone z' h; cases h
  | succ n ih =>
    intro zone z' h
    simp only [St.ensureNormalLoop, ite_eq_iff', reduceCtorEq, and_false, false_or, Option.some.injEq] at h
    rcases h.2 with ⟨hnz, rfl⟩ | ⟨_, h⟩
    · exact hnz
    · exact ih _ _ h

theorem ensureNormalMemory_ok {s : St} {r : Req} {z : Mask} {t : Nat} (h : s.ensureNormalMemory r = .ok (z, t)) :
    (r.zone &&& s.normalMask ≠ 0 ∧ z = r.zone ∧ t = r.types) ∨
    ∃ types, s.ensureNormalLoop types 65 r.zone = some z ∧ t = r.types ||| types := by
  unfold St.ensureNormalMemory at h
  rw [ite_eq_iff'] at h
  rcases h with ⟨hz, h⟩ | ⟨_, h⟩
  · cases h; exact Or.inl ⟨hz, rfl, rfl⟩
  · dsimp only at h
    split at h
    · cases h
    · rename_i types _
      split at h
      · rename_i zone hz
        cases h
        exact Or.inr ⟨types, hz, rfl⟩
      · cases h

namespace Validated
variable {s : St} {r r' : Req} (h : Validated s r r')
include h

theorem id : r'.id = r.id := by obtain ⟨_, _, _, _, _, _, _, rfl⟩ := h; rfl
theorem size : r'.size = r.size := by obtain ⟨_, _, _, _, _, _, _, rfl⟩ := h; rfl

theorem new : s.req? r'.id = none := by
  obtain ⟨_, _, _, _, hv, _, _, rfl⟩ := h
  unfold St.validateRequest at hv
  rw [ite_eq_iff'] at hv
  rcases hv with ⟨_, hv⟩ | ⟨hnone, _⟩
  · cases hv
  · simpa using hnone

theorem normal : r'.zone &&& s.normalMask ≠ 0 := by
  obtain ⟨_, _, _, _, _, _, hn, rfl⟩ := h
  rcases ensureNormalMemory_ok hn with ⟨hz, rfl, _⟩ | ⟨_, hl, _⟩
  · exact hz
  · exact ensureNormalLoop_spec s _ _ _ _ hl

theorem zone_ne : r'.zone ≠ 0 := and_ne_zero_left h.normal

end Validated

theorem withNew_ids (s : St) (hnd : IdsNodup s) (r : Req) (hnew : s.req? r.id = none) : IdsNodup (withNew s r) := by
  simp only [IdsNodup, withNew, List.map_append, List.map_cons, List.map_nil]
  exact nodup_concat hnd ((req?_eq_none_iff s _).1 hnew)

theorem withNew_wf (s : St) (hw : WF s) (r : Req) (hnew : s.req? r.id = none) : WF (withNew s r) :=
  ⟨hw.journal, withNew_ids s hw.ids r hnew⟩

theorem zoneIn_withNew (s : St) (r' : Req) (id : String) : zoneIn (withNew s r') id = zoneIn s id := by
  unfold zoneIn St.req? withNew
  rw [List.find?_append]
  cases hf : s.reqs.find? (·.id == id) with
  | some x => rfl
  | none => by_cases e : r'.id = id <;> simp [e]

theorem withNew_req? (s : St) (r : Req) (hnew : s.req? r.id = none) : (withNew s r).req? r.id = some { r with zone := 0 } := by
  unfold St.req? withNew at *
  simp [List.find?_append, hnew]

/-- **`allocate` in normal form**: it refuses the request without touching the state, or runs the
transaction that moves the validated request, appended unassigned, to its initial zone - and
hands the resulting state out (journal still open) or reverts it. -/
theorem allocate_view (s : St) (r : Req) :
    (∃ e, s.allocate r = (s, .error e)) ∨
    ∃ r', Validated s r r' ∧
      ((s.allocTxn r').2 = none ∧ s.allocate r = ((s.allocTxn r').1, .ok r') ∨
       ∃ e, s.allocate r = (((s.allocTxn r').1.revertJournal (some r'.id)).1, .error e)) := by
  unfold St.allocate
  cases hv : s.validateRequest r with
  | error e => exact Or.inl ⟨e, rfl⟩
  | ok t1 =>
    dsimp only
    cases hf : s.findInitialZone { r with types := t1 } with
    | error e => exact Or.inl ⟨e, rfl⟩
    | ok z1 =>
      dsimp only
      cases hn : s.ensureNormalMemory { r with types := t1, zone := z1 } with
      | error e => exact Or.inl ⟨e, rfl⟩
      | ok zt =>
        obtain ⟨z2, t2⟩ := zt
        have hval : Validated s r { r with types := t2, zone := z2 } := ⟨t1, z1, z2, t2, hv, hf, hn, rfl⟩
        refine Or.inr ⟨_, hval, ?_⟩
        -- the state the code builds is `withNew` inside a journal, and assigning an unassigned request is a move
        have hmove : (withNew s { r with types := t2, zone := z2 }).startJournal.zoneMove z2 r.id =
            (({ s.startJournal with reqs := s.startJournal.reqs ++ [{ ({ r with types := t2, zone := z2 } : Req) with zone := 0 }] } : St).zoneAssign z2 r.id) := by
          have := withNew_req? s _ hval.new
          unfold St.zoneMove
          simp [show (withNew s { r with types := t2, zone := z2 }).startJournal.req? r.id = _ from this]
          rfl
        unfold St.allocTxn St.txn
        dsimp only
        rw [hmove]
        split
        · rename_i h2; rw [h2]; exact Or.inl ⟨rfl, rfl⟩
        · rename_i e h2; rw [h2]; exact Or.inr ⟨e, rfl⟩

/-- closing a successful transaction: journal dropped, version bumped, unused zones cleaned up -/
def St.committed (s : St) : St := St.cleanupUnusedZones { s with journal := none, version := s.version + 1 }

@[simp] theorem committed_reqs (s : St) : s.committed.reqs = s.reqs := rfl
@[simp] theorem committed_nodes (s : St) : s.committed.nodes = s.nodes := rfl
@[simp] theorem committed_version (s : St) : s.committed.version = s.version + 1 := rfl

theorem ent_committed (s : St) (h : Ent s) : Ent s.committed := ent_cleanup _ h

theorem wf_committed (s : St) (h : IdsNodup s) : WF s.committed := ⟨rfl, h⟩

theorem commitJournal_eq (s : St) (id : String) : s.commitJournal id = ({ s with journal := none }, alErase s.updates id) := by
  obtain ⟨_, _, _, _, j, _⟩ := s
  cases j <;> rfl

theorem Validated.txn {s : St} {r r' : Req} (hv : Validated s r r') (hw : WF s) :
    Txn (withNew s r') { r' with zone := 0 } r'.zone :=
  ⟨withNew_wf s hw r' hv.new, (mem_withNew ..).2 (Or.inr rfl), msub_zero _, hv.zone_ne⟩

theorem allocTxn_good {s : St} (hw : WF s) {r r' : Req} (hv : Validated s r r') : Good (withNew s r') (s.allocTxn r').1 :=
  txn_good (r := { r' with zone := 0 }) (hv.txn hw)

theorem allocTxn_ids {s : St} (hw : WF s) {r r' : Req} (hv : Validated s r r') : IdsNodup (s.allocTxn r').1 :=
  txn_ids (r := { r' with zone := 0 }) (hv.txn hw)

theorem allocate_reverted (s : St) (hw : WF s) {r r' : Req} (hv : Validated s r r') :
    Restored s ((s.allocTxn r').1.revertJournal (some r'.id)).1 := by
  have hw' := withNew_wf s hw r' hv.new
  refine (allocTxn_good hw hv).revert hw'.ids (fun _ => txn_entries_sup (hv.txn hw)) (some r'.id) s ?_ rfl rfl rfl
  -- dropping the appended request gives the request list back
  show s.reqs = (s.reqs ++ [{ r' with zone := 0 }]).filter (·.id != r'.id)
  rw [List.filter_append, List.filter_eq_self.2 fun x hx => by
    simpa using fun e : x.id = r'.id => (req?_eq_none_iff s _).1 hv.new (e ▸ List.mem_map_of_mem hx)]
  simp

/-- a successful `Allocate r`: the committed transaction of the validated request `r'`, returning the
requester's final zone and the journal's updates at the transaction's end, without the requester -/
structure AllocateOK (s : St) (r r' : Req) : Prop where
  valid : Validated s r r'
  ok : (s.allocTxn r').2 = none
  state : (s.Allocate r).1 = (s.allocTxn r').1.committed
  result : (s.Allocate r).2 =
    .ok ⟨(((s.allocTxn r').1.req? r'.id).map (·.zone)).getD r'.zone, alErase (s.allocTxn r').1.updates r'.id⟩

theorem AllocateOK.updates {s : St} {r r' : Req} (ha : AllocateOK s r r') {res : Result} (h : (s.Allocate r).2 = .ok res) :
    res.updates = alErase (s.allocTxn r').1.updates r'.id :=
  congrArg Result.updates (Except.ok.inj (h.symm.trans ha.result))

theorem AllocateOK.of_allocate {s : St} {r r' : Req} (hv : Validated s r r') (ht : (s.allocTxn r').2 = none)
    (h : s.allocate r = ((s.allocTxn r').1, .ok r')) : AllocateOK s r r' := by
  have heq : s.Allocate r = ((s.allocTxn r').1.committed,
      .ok ⟨(((s.allocTxn r').1.req? r'.id).map (·.zone)).getD r'.zone, alErase (s.allocTxn r').1.updates r'.id⟩) := by
    unfold St.Allocate
    rw [h]
    -- as a variable, the transaction's final state costs the unifier nothing
    generalize (s.allocTxn r').1 = F
    dsimp only
    rw [commitJournal_eq]
    rfl
  exact ⟨hv, ht, congrArg Prod.fst heq, congrArg Prod.snd heq⟩

theorem Allocate_view (s : St) (hw : WF s) (r : Req) :
    (∃ e, (s.Allocate r).2 = .error e ∧ Restored s (s.Allocate r).1) ∨ ∃ r', AllocateOK s r r' := by
  rcases allocate_view s r with ⟨e, h⟩ | ⟨r', hv, ⟨ht, h⟩ | ⟨e, h⟩⟩
  · unfold St.Allocate; rw [h]; exact Or.inl ⟨e, rfl, (Restored.refl s hw).cleanup⟩
  · exact Or.inr ⟨r', .of_allocate hv ht h⟩
  · unfold St.Allocate; rw [h]; exact Or.inl ⟨e, rfl, (allocate_reverted s hw hv).cleanup⟩

theorem Allocate_ok_view (s : St) (hw : WF s) (r : Req) (res : Result) (h : (s.Allocate r).2 = .ok res) : ∃ r', AllocateOK s r r' :=
  (Allocate_view s hw r).resolve_left fun ⟨_, he, _⟩ => nomatch he.symm.trans h

/-- **`GetOffer` in normal form**: the state is restored whatever the outcome; an offer is made where
`Allocate` succeeds - both run the same internal `allocate` - and carries the version, the validated
request and the complete update map of the reverted transaction. -/
theorem GetOffer_view (s : St) (hw : WF s) (r : Req) :
    Restored s (s.GetOffer r).1 ∧
    ∀ o, (s.GetOffer r).2 = .ok o →
      ∃ r', AllocateOK s r r' ∧ o = ⟨s.version, { r' with zone := 0 }, (s.allocTxn r').1.updates⟩ := by
  unfold St.GetOffer
  rcases allocate_view s r with ⟨e, h⟩ | ⟨r', hv, ⟨ht, h⟩ | ⟨e, h⟩⟩ <;> rw [h] <;> dsimp only
  · exact ⟨(Restored.refl s hw).cleanup, fun _ ho => nomatch ho⟩
  · have hw' := withNew_wf s hw r' hv.new
    have hres := allocate_reverted s hw hv
    rw [show (s.allocTxn r').1.revertJournal (some r'.id) = (((s.allocTxn r').1.revertJournal (some r'.id)).1, (s.allocTxn r').1.updates, none)
      from Prod.ext rfl (revert_spec _ _ (allocTxn_good hw hv) hw'.ids (some r'.id)).1]
    exact ⟨hres.cleanup, fun o ho => ⟨r', .of_allocate hv ht h, by rw [← Except.ok.inj ho, hres.version]⟩⟩
  · exact ⟨(allocate_reverted s hw hv).cleanup, fun _ ho => nomatch ho⟩

def addTypes (id : String) (t : Nat) (q : Req) : Req := if q.id == id then { q with types := q.types ||| t } else q

@[simp] theorem addTypes_id (id : String) (t : Nat) (q : Req) : (addTypes id t q).id = q.id := by unfold addTypes; split <;> rfl
@[simp] theorem addTypes_zone (id : String) (t : Nat) (q : Req) : (addTypes id t q).zone = q.zone := by unfold addTypes; split <;> rfl
@[simp] theorem addTypes_prio (id : String) (t : Nat) (q : Req) : (addTypes id t q).prio = q.prio := by unfold addTypes; split <;> rfl
@[simp] theorem addTypes_size (id : String) (t : Nat) (q : Req) : (addTypes id t q).size = q.size := by unfold addTypes; split <;> rfl
@[simp] theorem addTypes_strict (id : String) (t : Nat) (q : Req) : (addTypes id t q).strict = q.strict := by unfold addTypes; split <;> rfl

/-- the final state of a successful `Realloc`: the types found by `expand` recorded in the request, then committed -/
def St.recorded (s : St) (id : String) (t : Nat) : St := St.committed { s with reqs := s.reqs.map (addTypes id t) }

@[simp] theorem recorded_reqs (s : St) (id : String) (t : Nat) : (s.recorded id t).reqs = s.reqs.map (addTypes id t) := rfl
@[simp] theorem recorded_nodes (s : St) (id : String) (t : Nat) : (s.recorded id t).nodes = s.nodes := rfl

theorem mem_recorded {s : St} {id : String} {t : Nat} {q' : Req} :
    q' ∈ (s.recorded id t).reqs ↔ ∃ q ∈ s.reqs, addTypes id t q = q' := by rw [recorded_reqs, List.mem_map]

theorem wf_recorded (s : St) (id : String) (t : Nat) (h : IdsNodup s) : WF (s.recorded id t) :=
  ⟨rfl, by rw [recorded_reqs, List.map_map]; exact (List.map_congr_left fun q _ => addTypes_id id t q).symm ▸ h⟩

theorem recorded_ent (s : St) (id : String) (t : Nat) (h : Ent s) : Ent (s.recorded id t) :=
  ent_cleanup _ fun q' hq' => by obtain ⟨q, hq, rfl⟩ := List.mem_map.1 hq'; simpa using h q hq

/-- a successful `Realloc` of request `r` that had something to do: the committed transaction that moves `r`
to its zone, the validated nodes `n1` and what `expand` adds to them (`nn`, of types `nt`, recorded in the request) -/
structure ReallocOK (s : St) (nodes : Mask) (types : Nat) (r : Req) (n1 : Mask) (t1 : Nat) (nn : Mask) (nt : Nat) : Prop where
  mem : r ∈ s.reqs
  valid : s.validateRealloc r nodes types = .ok (n1, t1, false)
  expand : s.expand (r.zone ||| n1) t1 = (nn, nt)
  new : nn ≠ 0
  ok : (s.txn (r.zone ||| n1 ||| nn) r.id).2 = none
  state : (s.Realloc r.id nodes types).1 = (s.txn (r.zone ||| n1 ||| nn) r.id).1.recorded r.id nt
  result : (s.Realloc r.id nodes types).2 =
    .ok ⟨((((s.txn (r.zone ||| n1 ||| nn) r.id).1.recorded r.id nt).req? r.id).map (·.zone)).getD
            (r.zone ||| n1 ||| nn) ||| (r.zone ||| n1 ||| nn), alErase (s.txn (r.zone ||| n1 ||| nn) r.id).1.updates r.id⟩

theorem ReallocOK.txn {s : St} {nodes : Mask} {types : Nat} {r : Req} {n1 : Mask} {t1 : Nat} {nn : Mask} {nt : Nat}
    (ha : ReallocOK s nodes types r n1 t1 nn nt) (hw : WF s) : Txn s r (r.zone ||| n1 ||| nn) :=
  ⟨hw, ha.mem, msub_or_right nn (msub_or_self r.zone n1), or_ne_zero_right ha.new⟩

theorem ReallocOK.updates {s : St} {nodes : Mask} {types : Nat} {r : Req} {n1 : Mask} {t1 : Nat} {nn : Mask} {nt : Nat}
    (ha : ReallocOK s nodes types r n1 t1 nn nt) {res : Result} (h : (s.Realloc r.id nodes types).2 = .ok res) :
    res.updates = alErase (s.txn (r.zone ||| n1 ||| nn) r.id).1.updates r.id :=
  congrArg Result.updates (Except.ok.inj (h.symm.trans ha.result))

theorem Realloc_view (s : St) (hw : WF s) (id : String) (nodes : Mask) (types : Nat) :
    (∃ e, (s.Realloc id nodes types).2 = .error e ∧ Restored s (s.Realloc id nodes types).1) ∨
    (∃ r, s.req? id = some r ∧ (s.Realloc id nodes types).1 = s ∧ (s.Realloc id nodes types).2 = .ok ⟨r.zone, []⟩) ∨
    ∃ r n1 t1 nn nt, r.id = id ∧ ReallocOK s nodes types r n1 t1 nn nt := by
  have hrefl := Restored.refl s hw
  -- one copy of the operation to unfold, in `hout`; `hdef` remembers what `out` is
  generalize hdef : s.Realloc id nodes types = out
  have hout := hdef
  unfold St.Realloc at hout
  cases hr : s.req? id with
  | none => rw [hr] at hout; subst hout; exact Or.inl ⟨_, rfl, hrefl⟩
  | some r =>
    obtain ⟨hrm, rfl⟩ := req?_some hr
    rw [hr] at hout
    dsimp only at hout
    cases hv : s.validateRealloc r nodes types with
    | error e => rw [hv] at hout; subst hout; exact Or.inl ⟨_, rfl, hrefl⟩
    | ok v =>
      obtain ⟨n1, t1, fl⟩ := v
      rw [hv] at hout
      cases fl with
      | true => subst hout; exact Or.inr (Or.inl ⟨r, rfl, rfl, rfl⟩)
      | false =>
        dsimp only at hout
        cases hx : s.expand (r.zone ||| n1) t1 with
        | mk nn nt =>
          rw [show s.startJournal.expand (r.zone ||| n1) t1 = (nn, nt) from hx] at hout
          dsimp only at hout
          by_cases hz : nn = 0
          · -- nothing to expand to: the (empty) journal is reverted
            rw [if_pos (by simpa using hz)] at hout
            subst hout
            exact Or.inl ⟨_, rfl, ((good_start s hw).revert hw.ids (fun _ h => h) none s rfl rfl rfl rfl).cleanup⟩
          · have hT : Txn s r (r.zone ||| n1 ||| nn) := ⟨hw, hrm, msub_or_right nn (msub_or_self r.zone n1), or_ne_zero_right hz⟩
            have hrev := (txn_good hT).revert hw.ids (fun _ => txn_entries_sup hT) none s rfl rfl rfl rfl
            rw [if_neg (by simpa using hz)] at hout
            rcases h3 : s.txn (r.zone ||| n1 ||| nn) r.id with ⟨s3, _ | e⟩
            · rw [show (s.startJournal.zoneMove (r.zone ||| n1 ||| nn) r.id).handleOvercommit (r.zone ||| n1 ||| nn) = (s3, none) from h3] at hout
              dsimp only at hout
              rw [commitJournal_eq] at hout
              subst hout
              exact Or.inr (Or.inr ⟨r, n1, t1, nn, nt, rfl, hrm, hv, hx, hz, congrArg Prod.snd h3,
                by rw [hdef, h3]; rfl, by rw [hdef, h3]; rfl⟩)
            · rw [show (s.startJournal.zoneMove (r.zone ||| n1 ||| nn) r.id).handleOvercommit (r.zone ||| n1 ||| nn) = (s3, some e) from h3] at hout
              subst hout
              rw [h3] at hrev
              exact Or.inl ⟨_, rfl, hrev.cleanup⟩

theorem Realloc_ok_view (s : St) (hw : WF s) (id : String) (nodes : Mask) (types : Nat) (res : Result)
    (h : (s.Realloc id nodes types).2 = .ok res) :
    (∃ r, s.req? id = some r ∧ (s.Realloc id nodes types).1 = s ∧ (s.Realloc id nodes types).2 = .ok ⟨r.zone, []⟩) ∨
    ∃ r n1 t1 nn nt, r.id = id ∧ ReallocOK s nodes types r n1 t1 nn nt :=
  (Realloc_view s hw id nodes types).resolve_left fun ⟨_, he, _⟩ => nomatch he.symm.trans h

theorem filter_setz (l : List Req) (id : String) (z : Mask) : (l.map (setz id z)).filter (·.id != id) = l.filter (·.id != id) := by
  induction l with
  | nil => rfl
  | cons q l ih =>
    rw [List.map_cons, List.filter_cons, List.filter_cons, setz_id, ih]
    by_cases e : q.id = id
    · simp [e]
    · simp [e, setz_of_ne z e]

theorem Release_view (s : St) (id : String) :
    (s.req? id = none ∧ (s.Release id).1 = s ∧ (s.Release id).2 = .error .unknownRequest) ∨
    (∃ r, s.req? id = some r ∧ r.zone = 0 ∧ (s.Release id).1 = s ∧ (s.Release id).2 = .error .noZone) ∨
    ∃ r, s.req? id = some r ∧ r.zone ≠ 0 ∧ (s.Release id).2 = .ok () ∧ (s.Release id).1 =
      St.cleanupUnusedZones { s with reqs := s.reqs.filter (·.id != id), journal := s.journal.map (·.delete r.zone id),
                                      version := s.version + 1 } := by
  unfold St.Release
  cases hr : s.req? id with
  | none => exact Or.inl ⟨rfl, rfl, rfl⟩
  | some r =>
    by_cases hz : r.zone = 0
    · refine Or.inr (Or.inl ⟨r, rfl, hz, ?_⟩)
      simp only [hz, beq_self_eq_true, if_true, and_self]
    · refine Or.inr (Or.inr ⟨r, rfl, hz, ?_⟩)
      simp only [beq_iff_eq, hz, if_false, zoneRemove_eq hr hz, filter_setz, and_self]

@[simp] theorem step_allocate (s : St) (r : Req) : s.step (.allocate r) = (s.Allocate r).1 := rfl
@[simp] theorem step_getOffer (s : St) (r : Req) : s.step (.getOffer r) = (s.GetOffer r).1 := rfl
@[simp] theorem step_realloc (s : St) (id : String) (n : Mask) (t : Nat) : s.step (.realloc id n t) = (s.Realloc id n t).1 := rfl
@[simp] theorem step_release (s : St) (id : String) : s.step (.release id) = (s.Release id).1 := rfl

/-- **One operation of a history**, whatever it is and however it ends: the state is restored
(a failure, an offer, a no-op), or an `Allocate`, `Realloc` or `Release` went through, leaving a
well-formed state one version on; the views of the two that run a transaction are handed on. -/
theorem step_outcome (s : St) (hw : WF s) (op : Op) :
    Restored s (s.step op) ∨ ((WF (s.step op) ∧ (s.step op).version = s.version + 1 ∧ (s.step op).nodes = s.nodes) ∧
      ((∃ r r', op = .allocate r ∧ AllocateOK s r r') ∨
       (∃ r nodes types n1 t1 nn nt, op = .realloc r.id nodes types ∧ ReallocOK s nodes types r n1 t1 nn nt) ∨
       ∃ id, op = .release id ∧ (s.Release id).2 = .ok () ∧ (s.Release id).1.reqs = s.reqs.filter (·.id != id) ∧
         (Ent s → Ent (s.Release id).1))) := by
  cases op with
  | allocate r =>
    rw [step_allocate]
    rcases Allocate_view s hw r with ⟨_, _, h⟩ | ⟨r', ha⟩
    · exact Or.inl h
    · have hg := allocTxn_good hw ha.valid
      rw [ha.state]
      exact Or.inr ⟨⟨wf_committed _ (allocTxn_ids hw ha.valid), (committed_version _).trans (congrArg (· + 1) hg.version),
        (committed_nodes _).trans hg.nodes⟩, Or.inl ⟨r, r', rfl, ha⟩⟩
  | getOffer r => exact Or.inl (GetOffer_view s hw r).1
  | realloc id nodes types =>
    rw [step_realloc]
    rcases Realloc_view s hw id nodes types with ⟨_, _, h⟩ | ⟨_, _, heq, _⟩ | ⟨r, n1, t1, nn, nt, rfl, ha⟩
    · exact Or.inl h
    · rw [heq]; exact Or.inl (Restored.refl s hw)
    · have hg := txn_good (ha.txn hw)
      rw [ha.state]
      exact Or.inr ⟨⟨wf_recorded _ _ _ (txn_ids (ha.txn hw)), (committed_version _).trans (congrArg (· + 1) hg.version),
        (recorded_nodes ..).trans hg.nodes⟩, Or.inr (Or.inl ⟨r, nodes, types, n1, t1, nn, nt, rfl, ha⟩)⟩
  | release id =>
    rw [step_release]
    rcases Release_view s id with ⟨_, heq, _⟩ | ⟨_, _, _, heq, _⟩ | ⟨r, _, _, he, heq⟩
    · rw [heq]; exact Or.inl (Restored.refl s hw)
    · rw [heq]; exact Or.inl (Restored.refl s hw)
    · have hreqs : (s.Release id).1.reqs = s.reqs.filter (·.id != id) := by rw [heq]; rfl
      have hent : Ent s → Ent (s.Release id).1 := fun h => by
        rw [heq]; exact ent_cleanup _ fun q hq hz => h q (List.mem_filter.1 hq).1 hz
      rw [heq]
      exact Or.inr ⟨⟨⟨show s.journal.map _ = none by rw [hw.journal]; rfl, (List.filter_sublist.map _).nodup hw.ids⟩, rfl, rfl⟩,
        Or.inr (Or.inr ⟨id, rfl, he, hreqs, hent⟩)⟩

theorem step_wf (s : St) (hw : WF s) (op : Op) : WF (s.step op) :=
  (step_outcome s hw op).elim (fun h => h.wf hw) (·.1.1)

theorem step_nodes (s : St) (hw : WF s) (op : Op) : (s.step op).nodes = s.nodes :=
  (step_outcome s hw op).elim (·.nodes) (·.1.2.2)

end Nri.LibMem
