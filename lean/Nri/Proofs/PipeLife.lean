import Nri.Model.PipeLife
/-!
Lemmas for the life-cycle pipeline model (C05).  Every handler of `step` maps per-container
functions over the cache and, if it replies with updates, ends with `takeUpdates skip` on the
resulting list.  So there are three layers: what each per-container function (`writesTo`, `setSt`,
`markOld`, `takeAdjustment`, `takeUpdate`) does to `CtrInv`, `Clean` and a waiting update; what
`takeUpdates` makes of a cache that satisfies `Inv` (`collect_*`); and per handler the cache it
collects from (an equation where `step` does not compute to it: `step_create_*`, `step_stop_*`).
-/
namespace Nri.PipeLife

/-- all writes of a list, seen from one container -/
def writesTo (c : Ctr) (ws : List Write) : Ctr :=
  ws.foldl (fun c w => if c.id = w.ctr then setField c w.field w.value else c) c

@[simp] theorem setField_id (c : Ctr) (i : Nat) (v : String) : (setField c i v).id = c.id := rfl
@[simp] theorem setField_state (c : Ctr) (i : Nat) (v : String) : (setField c i v).state = c.state := rfl
@[simp] theorem setField_told (c : Ctr) (i : Nat) (v : String) : (setField c i v).told = c.told := rfl

theorem writesTo_ind {P : Ctr → Prop} (hP : ∀ c i v, P c → P (setField c i v)) (ws : List Write) (c : Ctr) (h : P c) :
    P (writesTo c ws) :=
  List.foldlRecOn ws _ h fun c hc w _ => by
    split
    · exact hP c _ _ hc
    · exact hc

theorem writesTo_id (ws : List Write) (c : Ctr) : (writesTo c ws).id = c.id :=
  writesTo_ind (P := fun c' => c'.id = c.id) (fun _ _ _ h => h) ws c rfl

theorem writesTo_state (ws : List Write) (c : Ctr) : (writesTo c ws).state = c.state :=
  writesTo_ind (P := fun c' => c'.state = c.state) (fun _ _ _ h => h) ws c rfl

theorem writesTo_untouched (ws : List Write) : ∀ c : Ctr, (∀ w ∈ ws, w.ctr ≠ c.id) → writesTo c ws = c :=
  fun c h => List.foldlRecOn (motive := (· = c)) ws _ rfl fun b hb w hw => by rw [hb, if_neg fun e => h w hw e.symm]

theorem applyWrites_eq (ws : List Write) (s : St) : applyWrites s ws = s.map (fun c => writesTo c ws) := by
  induction ws generalizing s with
  | nil => exact (List.map_id' s).symm
  | cons w ws ih => exact (ih _).trans (List.map_map ..)

/-- `setField` keeps `Agree`: on the three maps alone, so that it serves a new request and an existing one -/
theorem agree_upd {told cache : Nat → String} {f : Fields}
    (h : ∀ j, (f j = none → told j = cache j) ∧ ∀ v, f j = some v → cache j = v) (i : Nat) (v : String) (j : Nat) :
    (upd f i (some v) j = none → told j = upd cache i v j) ∧ ∀ v', upd f i (some v) j = some v' → upd cache i v j = v' := by
  by_cases hj : j = i
  · simp [upd, hj]
  · simp [upd, hj]; exact h j

theorem setField_inv (c : Ctr) (i : Nat) (v : String) (h : CtrInv c) : CtrInv (setField c i v) := by
  cases hr : c.req with
  | none =>
    -- a new request is an adjustment exactly for a container being created
    refine ⟨fun hd => ?_, fun _ => rfl, fun f hf => ?_, fun hs f hf => ?_⟩
    · have ha := h.agree hd
      simp only [Agree, setField, hr] at ha ⊢
      exact agree_upd (fun j => ⟨fun _ => ha j, fun _ hv => by cases hv⟩) i v
    · simp only [setField, hr, Option.some.injEq, Prod.mk.injEq] at hf
      by_cases hs : c.state = .creating
      · rw [setField_state, hs]; rfl
      · rw [if_neg hs] at hf; cases hf.1
    · have hs : c.state = .creating := hs
      simp only [setField, hr, hs, if_true, Option.some.injEq, Prod.mk.injEq] at hf
      cases hf.1
  | some r =>
    obtain ⟨k, f⟩ := r
    -- an existing request keeps its kind
    refine ⟨fun hd => ?_, fun _ => rfl, fun f' hf => ?_, fun hs f' hf => ?_⟩
    · have ha := h.agree hd
      simp only [Agree, setField, hr] at ha ⊢
      exact agree_upd ha i v
    · simp only [setField, hr, Option.some.injEq, Prod.mk.injEq] at hf
      exact h.adjNotLive f (by rw [hr, hf.1])
    · simp only [setField, hr, Option.some.injEq, Prod.mk.injEq] at hf
      exact h.creatingNoUpd hs f (by rw [hr, hf.1])

theorem writesTo_inv (ws : List Write) (c : Ctr) (h : CtrInv c) : CtrInv (writesTo c ws) :=
  writesTo_ind setField_inv ws c h

theorem dead_of_not (st : CState) (h1 : isLive st = false) (h2 : st ≠ .creating) : isDead st = true := by
  cases st <;> first | rfl | exact absurd rfl h2 | cases h1

theorem live_not_dead (st : CState) (h : isLive st = true) : isDead st = false := by
  cases st <;> first | rfl | cases h

theorem CtrInv.setState {c : Ctr} (h : CtrInv c) {st : CState} (hc : st ≠ .creating)
    (hd : isDead st = false → isDead c.state = false) (hl : isLive st = true → isLive c.state = true) :
    CtrInv { c with state := st } := by
  refine ⟨fun h' => h.agree (hd h'), h.marked, fun f hf => ?_, fun hs => absurd hs hc⟩
  cases hst : isLive st with
  | false => rfl
  | true => have := h.adjNotLive f hf; rw [hl hst] at this; cases this

theorem CtrInv.of_req_none {c : Ctr} (hr : c.req = none) (ha : isDead c.state = false → ∀ i, c.told i = c.cache i) :
    CtrInv c := by
  refine ⟨fun hd => ?_, fun hn => absurd hr hn, fun f hf => ?_, fun _ f hf => ?_⟩
  · simp only [Agree, hr]; exact ha hd
  · rw [hr] at hf; cases hf
  · rw [hr] at hf; cases hf

theorem Clean.inv {c : Ctr} (h : Clean c) : CtrInv c := .of_req_none h.1 fun _ => h.2

theorem clean_of_req_none {c : Ctr} (h : CtrInv c) (hd : isDead c.state = false) (hr : c.req = none) : Clean c :=
  ⟨hr, by simpa only [Agree, hr] using h.agree hd⟩

theorem agree_overlay (c : Ctr) (k : Kind) (f : Fields) (hr : c.req = some (k, f)) (h : Agree c) (i : Nat) :
    overlay c.told f i = c.cache i := by
  simp only [Agree, hr] at h
  simp only [overlay]
  cases hf : f i with
  | none => exact (h i).1 hf
  | some v => exact ((h i).2 v hf).symm

theorem takeAdjustment_id (c : Ctr) : (takeAdjustment c).1.id = c.id := by
  unfold takeAdjustment; split <;> rfl
theorem takeAdjustment_state (c : Ctr) : (takeAdjustment c).1.state = c.state := by
  unfold takeAdjustment; split <;> rfl

/-- `hk`: a waiting update would be dropped undelivered -/
theorem takeAdjustment_clean (c : Ctr) (ha : Agree c) (hk : ∀ f, c.req ≠ some (.update, f)) :
    Clean (takeAdjustment c).1 := by
  unfold takeAdjustment
  split
  · rename_i f hr; exact ⟨rfl, agree_overlay c _ f hr ha⟩
  · rename_i f hr; exact absurd hr (hk f)
  · rename_i hr; exact ⟨rfl, by simpa only [Agree, hr] using ha⟩

theorem takeAdjustment_inv (c : Ctr) (h : CtrInv c) (hd : isDead c.state = false) (hk : ∀ f, c.req ≠ some (.update, f)) :
    CtrInv (takeAdjustment c).1 ∧ Clean (takeAdjustment c).1 :=
  have hc := takeAdjustment_clean c (h.agree hd) hk
  ⟨hc.inv, hc⟩

section takeUpdate
variable (skip : Option String) (c : Ctr)

theorem takeUpdate_cases :
    ((c.marked = false ∨ skip = some c.id ∨ c.req = none) ∧ takeUpdate skip c = (c, none)) ∨
    (∃ f, c.req = some (.update, f) ∧ skip ≠ some c.id ∧
      takeUpdate skip c = ({ c with req := none, marked := false, told := overlay c.told f }, some ⟨c.id, f⟩)) ∨
    (∃ f, c.req = some (.adjustment, f) ∧ takeUpdate skip c = ({ c with req := none }, none)) := by
  -- named before it is unfolded: the statement mentions it three times
  generalize h : takeUpdate skip c = r
  unfold takeUpdate at h
  split at h
  · rename_i hm; exact .inl ⟨.inl (by simpa using hm), h.symm⟩
  split at h
  · rename_i hs; exact .inl ⟨.inr (.inl hs), h.symm⟩
  split at h
  · rename_i hs _ f hr; exact .inr (.inl ⟨f, hr, hs, h.symm⟩)
  · rename_i f hr; exact .inr (.inr ⟨f, hr, h.symm⟩)
  · rename_i hr; exact .inl ⟨.inr (.inr hr), h.symm⟩

theorem takeUpdate_id : (takeUpdate skip c).1.id = c.id := by
  rcases takeUpdate_cases skip c with ⟨_, e⟩ | ⟨_, _, _, e⟩ | ⟨_, _, e⟩ <;> rw [e]

theorem takeUpdate_state : (takeUpdate skip c).1.state = c.state := by
  rcases takeUpdate_cases skip c with ⟨_, e⟩ | ⟨_, _, _, e⟩ | ⟨_, _, e⟩ <;> rw [e]

theorem takeUpdate_inv (h : CtrInv c) (hs : c.state ≠ .creating) : CtrInv (takeUpdate skip c).1 := by
  rcases takeUpdate_cases skip c with ⟨_, e⟩ | ⟨f, hr, _, e⟩ | ⟨f, hr, e⟩ <;> rw [e]
  · exact h
  · exact .of_req_none rfl fun hd => agree_overlay c _ f hr (h.agree hd)
  · -- a waiting adjustment is dropped: its container is not live and not `creating`, hence dead
    refine .of_req_none rfl fun hd => ?_
    rw [dead_of_not c.state (h.adjNotLive f hr) hs] at hd; cases hd

theorem takeUpdate_clean (h : CtrInv c) (hl : isLive c.state = true) (hskip : skip = some c.id → Clean c) :
    Clean (takeUpdate skip c).1 := by
  have hd := live_not_dead _ hl
  rcases takeUpdate_cases skip c with ⟨hn, e⟩ | ⟨f, hr, _, e⟩ | ⟨f, hr, _⟩
  · rw [e]
    rcases hn with hm | hs | hr
    · -- not marked, so nothing is pending
      exact clean_of_req_none h hd (Decidable.byContradiction fun hn => by rw [h.marked hn] at hm; cases hm)
    · exact hskip hs
    · exact clean_of_req_none h hd hr
  · rw [e]; exact ⟨rfl, agree_overlay c _ f hr (h.agree hd)⟩
  · have := h.adjNotLive f hr; rw [hl] at this; cases this

theorem takeUpdate_req_update (f : Fields) (h : (takeUpdate skip c).1.req = some (.update, f)) :
    c.req = some (.update, f) := by
  rcases takeUpdate_cases skip c with ⟨_, e⟩ | ⟨_, _, _, e⟩ | ⟨_, _, e⟩ <;> rw [e] at h
  · exact h
  · cases h
  · cases h

theorem takeUpdate_msg (m : Msg) (h : (takeUpdate skip c).2 = some m) :
    c.req = some (.update, m.fields) ∧ m.id = c.id ∧ skip ≠ some c.id := by
  rcases takeUpdate_cases skip c with ⟨_, e⟩ | ⟨f, hr, hs, e⟩ | ⟨_, _, e⟩ <;> rw [e] at h
  · cases h
  · cases h; exact ⟨hr, rfl, hs⟩
  · cases h

end takeUpdate

def setSt (id : String) (st : CState) (c : Ctr) : Ctr := if c.id = id then { c with state := st } else c

theorem setState_eq (s : St) (id : String) (st : CState) : setState s id st = s.map (setSt id st) := rfl

theorem setSt_self {id : String} {c : Ctr} (h : c.id = id) (st : CState) : setSt id st c = { c with state := st } := if_pos h
theorem setSt_other {id : String} {c : Ctr} (h : c.id ≠ id) (st : CState) : setSt id st c = c := if_neg h
theorem setSt_id (id : String) (st : CState) (c : Ctr) : (setSt id st c).id = c.id := by unfold setSt; split <;> rfl
theorem setSt_req (id : String) (st : CState) (c : Ctr) : (setSt id st c).req = c.req := by unfold setSt; split <;> rfl

def markOld (old : Option String) (id : String) (c : Ctr) : Ctr :=
  match old with
  | some o => if o = id then c else setSt o .exited c
  | none => c

theorem retire_eq (s : St) (old : Option String) (id : String) : retire s old id = s.map (markOld old id) := by
  cases old with
  | none => exact (List.map_id' s).symm
  | some o =>
    show (if o = id then s else setState s o .exited) = _
    by_cases ho : o = id
    · rw [if_pos ho]; exact ((List.map_congr_left fun c _ => by simp only [markOld, ho, if_true]).trans (List.map_id' s)).symm
    · rw [if_neg ho, setState_eq]; exact List.map_congr_left fun c _ => by simp only [markOld, ho, if_false]

section markOld
variable (old : Option String) (id : String) (c : Ctr)

theorem markOld_cases :
    markOld old id c = c ∨ (old = some c.id ∧ c.id ≠ id ∧ markOld old id c = { c with state := .exited }) := by
  unfold markOld
  split
  · rename_i o
    split
    · exact .inl rfl
    · by_cases hc : c.id = o
      · rename_i ho; exact .inr ⟨by rw [hc], by rw [hc]; exact ho, setSt_self hc _⟩
      · exact .inl (setSt_other hc _)
  · exact .inl rfl

theorem markOld_id : (markOld old id c).id = c.id := by
  rcases markOld_cases old id c with e | ⟨_, _, e⟩ <;> rw [e]

theorem markOld_req : (markOld old id c).req = c.req := by
  rcases markOld_cases old id c with e | ⟨_, _, e⟩ <;> rw [e]

theorem markOld_state {c : Ctr} (h : some c.id ≠ old) : (markOld old id c).state = c.state := by
  rcases markOld_cases old id c with e | ⟨ho, _, _⟩
  · rw [e]
  · exact absurd ho.symm h

theorem markOld_inv {c : Ctr} (h : CtrInv c) (hs : c.state ≠ .creating) :
    CtrInv (markOld old id c) ∧ (markOld old id c).state ≠ .creating := by
  rcases markOld_cases old id c with e | ⟨_, _, e⟩ <;> rw [e]
  · exact ⟨h, hs⟩
  · exact ⟨h.setState nofun nofun nofun, nofun⟩

end markOld

def LiveClean (s : St) : Prop := ∀ c ∈ s, isLive c.state = true → Clean c

theorem map_ids {g : Ctr → Ctr} (hg : ∀ c, (g c).id = c.id) (s : St) : (s.map g).map (·.id) = s.map (·.id) := by
  rw [List.map_map]; exact List.map_congr_left fun c _ => hg c

section Inv
variable {s : St} (h : Inv s)
include h

theorem Inv.map {g : Ctr → Ctr} (hid : ∀ c, (g c).id = c.id)
    (hg : ∀ c ∈ s, CtrInv c → c.state ≠ .creating → CtrInv (g c) ∧ (g c).state ≠ .creating) : Inv (s.map g) :=
  ⟨by rw [map_ids hid]; exact h.nodup,
   List.forall_mem_map.mpr fun c hc => (hg c hc (h.ctr c hc) (h.settled c hc)).1,
   List.forall_mem_map.mpr fun c hc => (hg c hc (h.ctr c hc) (h.settled c hc)).2⟩

theorem Inv.filter (p : Ctr → Bool) : Inv (s.filter p) :=
  ⟨(List.filter_sublist.map _).nodup h.nodup, fun c hc => h.ctr c (List.mem_filter.mp hc).1,
   fun c hc => h.settled c (List.mem_filter.mp hc).1⟩

theorem Inv.writes (ws : List Write) : Inv (applyWrites s ws) := by
  rw [applyWrites_eq]
  exact h.map (writesTo_id ws) fun c _ hi hs => ⟨writesTo_inv ws c hi, by rwa [writesTo_state]⟩

theorem Inv.setState (id : String) {st : CState} (hc : st ≠ .creating)
    (hst : ∀ c ∈ s, c.id = id → CtrInv { c with state := st }) : Inv (setState s id st) := by
  rw [setState_eq]
  refine h.map (setSt_id id st) fun c hcs hi hs => ?_
  by_cases hid : c.id = id
  · rw [setSt_self hid]; exact ⟨hst c hcs hid, hc⟩
  · rw [setSt_other hid]; exact ⟨hi, hs⟩

end Inv

/-- how a handler ends that replies with the pending updates -/
def collect (skip : Option String) (adj : Option Fields) (s : St) : St × Reply :=
  ((takeUpdates skip s).1, .ok adj (takeUpdates skip s).2)

section collect
variable (skip : Option String) (adj : Option Fields) {s : St}

theorem collect_inv (h : Inv s) : Inv (collect skip adj s).1 :=
  h.map (takeUpdate_id skip) fun c _ hi hs => ⟨takeUpdate_inv skip c hi hs, by rwa [takeUpdate_state]⟩

/-- the skipped container is left as it is -/
theorem collect_clean (h : Inv s) (hskip : ∀ c ∈ s, skip = some c.id → isLive c.state = true → Clean c) :
    LiveClean (collect skip adj s).1 :=
  List.forall_mem_map.mpr fun c hc hl => by
    rw [takeUpdate_state] at hl
    exact takeUpdate_clean skip c (h.ctr c hc) hl fun hs => hskip c hc hs hl

theorem collect_good (hq : ∀ c ∈ s, ∀ f, c.req = some (.update, f) → isLive c.state = true) :
    DeadQuiet (collect skip adj s).1 ∧ ∀ adj' ups, (collect skip adj s).2 = .ok adj' ups →
      ∀ m ∈ ups, ∃ c ∈ (collect skip adj s).1, c.id = m.id ∧ isLive c.state = true := by
  refine ⟨List.forall_mem_map.mpr fun c hc hd f hreq => ?_, fun _ _ hr m hm => ?_⟩
  · rw [takeUpdate_state, live_not_dead _ (hq c hc f (takeUpdate_req_update skip c f hreq))] at hd; cases hd
  · cases hr
    obtain ⟨c, hc, hcm⟩ := List.mem_filterMap.mp hm
    obtain ⟨hr, hid, _⟩ := takeUpdate_msg skip c m hcm
    exact ⟨_, List.mem_map.mpr ⟨c, hc, rfl⟩, by rw [takeUpdate_id, hid], by rw [takeUpdate_state]; exact hq c hc _ hr⟩

variable (adj' : Option Fields) (ups : List Msg)

theorem collect_nodup (h : Inv s) (hr : (collect skip adj s).2 = .ok adj' ups) : (ups.map (·.id)).Nodup := by
  cases hr
  -- a message carries the id of its container
  refine List.pairwise_map.mpr ((List.pairwise_map.mp h.nodup).filterMap _ fun c c' hne m hm m' hm' => ?_)
  rw [(takeUpdate_msg skip c m hm).2.1, (takeUpdate_msg skip c' m' hm').2.1]
  exact hne

theorem collect_not_skip (id : String) (hr : (collect (some id) adj s).2 = .ok adj' ups) : ∀ m ∈ ups, m.id ≠ id := by
  cases hr
  intro m hm e
  obtain ⟨c, _, hc⟩ := List.mem_filterMap.mp hm
  obtain ⟨_, hid, hs⟩ := takeUpdate_msg _ c m hc
  exact hs (by rw [← hid, e])

end collect

section create
variable (s : St) (id : String) (init : Nat → String) (old : Option String) (ws : List Write)

abbrev newCtr : Ctr := ⟨id, .creating, init, init, none, false⟩

/-- the containers other than the one being created, after the policy's writes and the retirement
of the stale instance -/
def others : St := (s.filter (fun c => c.id ≠ id)).map (fun c => markOld old id (writesTo c ws))

variable {s id old ws} in
theorem mem_others {p : Ctr} (hp : p ∈ others s id old ws) :
    ∃ c ∈ s, c.id ≠ id ∧ p = markOld old id (writesTo c ws) := by
  obtain ⟨c, hc, rfl⟩ := List.mem_map.mp hp
  exact ⟨c, (List.mem_filter.mp hc).1, by simpa using (List.mem_filter.mp hc).2, rfl⟩

variable {s id old ws} in
theorem others_id {p : Ctr} (hp : p ∈ others s id old ws) : p.id ≠ id := by
  obtain ⟨c, _, hne, rfl⟩ := mem_others hp
  rwa [markOld_id, writesTo_id]

/-- the new container, at the head, is not retired, and no other has its id -/
theorem create_pre_eq (st : CState) :
    setState (retire (applyWrites (newCtr id init :: s.filter (fun c => c.id ≠ id)) ws) old id) id st =
      { writesTo (newCtr id init) ws with state := st } :: others s id old ws := by
  rw [applyWrites_eq, retire_eq, setState_eq, List.map_map, List.map_map, List.map_cons]
  congr 1
  · have hid := writesTo_id ws (newCtr id init)
    show setSt id st (markOld old id _) = _
    rcases markOld_cases old id (writesTo (newCtr id init) ws) with e | ⟨_, hne, _⟩
    · rw [e, setSt_self hid]
    · exact absurd hid hne
  · exact List.map_congr_left fun c hc => setSt_other (others_id (List.mem_map_of_mem hc)) st

theorem step_create_err :
    step s (.create id init old ws false) =
      ({ writesTo (newCtr id init) ws with state := .stale } :: others s id old ws, .err) := by
  rw [← create_pre_eq]; rfl

theorem step_create_ok :
    step s (.create id init old ws true) =
      let new := takeAdjustment { writesTo (newCtr id init) ws with state := .created }
      collect (some id) new.2 (new.1 :: others s id old ws) := by
  have hid := writesTo_id ws (newCtr id init)
  have htail : (others s id old ws).map (fun c => if c.id = id then (takeAdjustment c).1 else c) = others s id old ws :=
    (List.map_congr_left fun p hp => if_neg (others_id hp)).trans (List.map_id' _)
  simp only [step, Bool.not_true, Bool.false_eq_true, if_false, create_pre_eq, List.map_cons, htail, hid,
    List.find?_cons_of_pos, decide_true, Option.bind_some, if_true, collect]

theorem newCtr_inv : CtrInv (newCtr id init) := .of_req_none rfl fun _ _ => rfl

/-- all the new container can have waiting is an adjustment -/
theorem new_clean : Clean (takeAdjustment { writesTo (newCtr id init) ws with state := .created }).1 :=
  have hi := writesTo_inv ws _ (newCtr_inv id init)
  have hs : (writesTo (newCtr id init) ws).state = .creating := writesTo_state ws _
  takeAdjustment_clean _ (hi.agree (by rw [hs]; rfl)) (hi.creatingNoUpd hs)

variable {s} (h : Inv s)
include h

theorem inv_create {c : Ctr} (hc : CtrInv c) (hs : c.state ≠ .creating) (hid : c.id = id) :
    Inv (c :: others s id old ws) := by
  have hrest : Inv (others s id old ws) :=
    (h.filter _).map (fun c => by rw [markOld_id, writesTo_id]) fun c _ hi hs =>
      markOld_inv old id (writesTo_inv ws c hi) (by rwa [writesTo_state])
  refine ⟨List.nodup_cons.mpr ⟨fun hm => ?_, hrest.nodup⟩, List.forall_mem_cons.mpr ⟨hc, hrest.ctr⟩,
    List.forall_mem_cons.mpr ⟨hs, hrest.settled⟩⟩
  obtain ⟨p, hp, (e : p.id = c.id)⟩ := List.mem_map.mp hm
  exact others_id hp (e.trans hid)

theorem inv_created :
    Inv ((takeAdjustment { writesTo (newCtr id init) ws with state := .created }).1 :: others s id old ws) :=
  inv_create id old ws h (new_clean id init ws).inv (by rw [takeAdjustment_state]; nofun)
    (by rw [takeAdjustment_id]; exact writesTo_id ws _)

end create

section stop
variable {s : St} {id : String} (ws : List Write)

theorem step_stop_unknown (h : ¬ s.any (fun c => c.id = id) = true) (ok : Bool) :
    step s (.stop id ws ok) = (s, .ok none []) := by
  simp only [step, h, Bool.not_false, if_true]

theorem step_stop_err (h : s.any (fun c => c.id = id) = true) :
    step s (.stop id ws false) = (applyWrites s ws, .err) := by
  simp only [step, h, Bool.not_true, Bool.false_eq_true, if_false, Bool.not_false, if_true]

theorem step_stop_ok (h : s.any (fun c => c.id = id) = true) :
    step s (.stop id ws true) = collect (some id) none (setState (applyWrites s ws) id .exited) := by
  simp only [step, h, Bool.not_true, Bool.false_eq_true, if_false, collect]

end stop

theorem inv_stopped {s : St} (h : Inv s) (id : String) (ws : List Write) : Inv (setState (applyWrites s ws) id .exited) :=
  (h.writes ws).setState id nofun fun c hc _ => ((h.writes ws).ctr c hc).setState nofun nofun nofun

theorem started_live {c : Ctr} (h : c.state = .created ∨ c.state = .running) : isLive c.state = true := by
  rcases h with e | e <;> rw [e] <;> rfl

theorem inv_init : Inv [] := ⟨List.nodup_nil, (fun _ h => nomatch h), fun _ h => nomatch h⟩

theorem inv_step (s : St) (e : Ev) (h : Inv s) (hw : WfEv s e) : Inv (step s e).1 := by
  cases e with
  | create id init old ws ok =>
    cases ok with
    | false =>
      rw [step_create_err]
      exact inv_create id old ws h ((writesTo_inv ws _ (newCtr_inv id init)).setState nofun nofun nofun) nofun (writesTo_id ws _)
    | true => rw [step_create_ok]; exact collect_inv _ _ (inv_created id init old ws h)
  | start id =>
    exact h.setState id nofun fun c hc hid =>
      (h.ctr c hc).setState nofun (fun _ => live_not_dead _ (started_live (hw c hc hid))) (fun _ => started_live (hw c hc hid))
  | update ws ok | push ws ok =>
    cases ok with
    | false => exact h.writes ws
    | true => exact collect_inv none none (h.writes ws)
  | stop id ws ok =>
    by_cases hk : s.any (fun c => c.id = id) = true
    · cases ok with
      | false => rw [step_stop_err ws hk]; exact h.writes ws
      | true => rw [step_stop_ok ws hk]; exact collect_inv _ _ (inv_stopped h id ws)
    · rw [step_stop_unknown ws hk]; exact h
  | remove id => exact h.filter _

theorem step_updates_nodup (s : St) (e : Ev) (h : Inv s) (adj : Option Fields) (ups : List Msg)
    (hr : (step s e).2 = .ok adj ups) : (ups.map (·.id)).Nodup := by
  cases e with
  | create id init old ws ok =>
    cases ok with
    | false => cases hr
    | true => rw [step_create_ok] at hr; exact collect_nodup _ _ adj ups (inv_created id init old ws h) hr
  | start id | remove id => cases hr; exact List.nodup_nil
  | update ws ok | push ws ok =>
    cases ok with
    | false => cases hr
    | true => exact collect_nodup none none adj ups (h.writes ws) hr
  | stop id ws ok =>
    by_cases hk : s.any (fun c => c.id = id) = true
    · cases ok with
      | false => rw [step_stop_err ws hk] at hr; cases hr
      | true => rw [step_stop_ok ws hk] at hr; exact collect_nodup _ _ adj ups (inv_stopped h id ws) hr
    · rw [step_stop_unknown ws hk] at hr; cases hr; exact List.nodup_nil

theorem create_updates_skip_self (s : St) (id : String) (init : Nat → String) (old : Option String) (ws : List Write) (ok : Bool)
    (adj : Option Fields) (ups : List Msg) (hr : (step s (.create id init old ws ok)).2 = .ok adj ups) :
    ∀ m ∈ ups, m.id ≠ id := by
  cases ok with
  | false => cases hr
  | true => rw [step_create_ok] at hr; exact collect_not_skip _ adj ups id hr

/-- no update of a StopContainer reply addresses the container being stopped -/
theorem stop_updates_skip_self (s : St) (id : String) (ws : List Write) (ok : Bool)
    (adj : Option Fields) (ups : List Msg) (hr : (step s (.stop id ws ok)).2 = .ok adj ups) :
    ∀ m ∈ ups, m.id ≠ id := by
  by_cases hk : s.any (fun c => c.id = id) = true
  · cases ok with
    | false => rw [step_stop_err ws hk] at hr; cases hr
    | true => rw [step_stop_ok ws hk] at hr; exact collect_not_skip _ adj ups id hr
  · rw [step_stop_unknown ws hk] at hr; cases hr; exact fun _ hm => nomatch hm

/-- a request that flushes (CreateContainer, UpdateContainer, StopContainer of a known container,
Synchronize, the push after a configuration update) and succeeds leaves every live container
clean - whatever was pending before, e.g. after earlier error replies -/
theorem flush_establishes_clean (s : St) (e : Ev) (h : Inv s)
    (hf : match e with
      | .create _ _ _ _ ok => ok = true
      | .update _ ok => ok = true
      | .push _ ok => ok = true
      | .stop id _ ok => ok = true ∧ s.any (fun c => c.id = id) = true
      | _ => False) : LiveClean (step s e).1 := by
  cases e with
  | create id init old ws ok =>
    subst hf
    rw [step_create_ok]
    -- the skipped container is the new one, which is clean
    exact collect_clean _ _ (inv_created id init old ws h) (List.forall_mem_cons.mpr
      ⟨fun _ _ => new_clean id init ws, fun p hp hs => absurd (Option.some.inj hs).symm (others_id hp)⟩)
  | start id | remove id => exact hf.elim
  | update ws ok | push ws ok => subst hf; exact collect_clean none none (h.writes ws) fun _ _ hs => nomatch hs
  | stop id ws ok =>
    obtain ⟨rfl, hk⟩ := hf
    rw [step_stop_ok ws hk, setState_eq]
    -- the skipped container is the stopped one, which is not live
    refine collect_clean _ _ (inv_stopped h id ws) (List.forall_mem_map.mpr fun c _ hs hl => ?_)
    rw [setSt_id] at hs
    rw [setSt_self (Option.some.inj hs).symm] at hl
    cases hl

theorem clean_step (s : St) (e : Ev) (h : Inv s) (hw : WfEv s e) (hc : LiveClean s)
    (adj : Option Fields) (ups : List Msg) (hr : (step s e).2 = .ok adj ups) : LiveClean (step s e).1 := by
  cases e with
  | create id init old ws ok =>
    cases ok with
    | false => cases hr
    | true => exact flush_establishes_clean s _ h rfl
  | start id =>
    refine List.forall_mem_map.mpr fun c hcs hl => ?_
    by_cases hid : c.id = id
    · rw [if_pos hid]; exact hc c hcs (started_live (hw c hcs hid))
    · rw [if_neg hid] at hl ⊢; exact hc c hcs hl
  | update ws ok | push ws ok =>
    cases ok with
    | false => cases hr
    | true => exact flush_establishes_clean s _ h rfl
  | stop id ws ok =>
    by_cases hk : s.any (fun c => c.id = id) = true
    · cases ok with
      | false => rw [step_stop_err ws hk] at hr; cases hr
      | true => exact flush_establishes_clean s _ h ⟨rfl, hk⟩
    · rw [step_stop_unknown ws hk]; exact hc
  | remove id => exact fun c hcm => hc c (List.mem_filter.mp hcm).1

/-- `LiveClean` and `DeadQuiet` together: no update waits at all -/
theorem no_update_waits {s : St} (h : Inv s) (hc : LiveClean s) (hq : DeadQuiet s) (c : Ctr) (hcs : c ∈ s) (f : Fields) :
    c.req ≠ some (.update, f) := fun hr => by
  by_cases hl : isLive c.state = true
  · have := (hc c hcs hl).1; rw [hr] at this; cases this
  · exact hq c hcs (dead_of_not c.state (by simpa using hl) (h.settled c hcs)) f hr

/-- an update that waits after the policy's writes for a container that had none waiting was written
by the policy, which writes only to live containers.  `g` is what the handler does to a container
between the writes and the collection: it keeps the request, and the state of every container but `notTo` -/
theorem upd_req_origin {s : St} {ws : List Write} {self notTo : Option String} (hg : goodWrites s ws self notTo)
    {g : Ctr → Ctr} (hreq : ∀ c, (g c).req = c.req) (hst : ∀ c, some c.id ≠ notTo → (g c).state = c.state)
    (c : Ctr) (hcs : c ∈ s) (hn : ∀ f, c.req ≠ some (.update, f)) (hself : some c.id ≠ self) (f : Fields)
    (hr : (g (writesTo c ws)).req = some (.update, f)) : isLive (g (writesTo c ws)).state = true := by
  rw [hreq] at hr
  by_cases hw : ∃ w ∈ ws, w.ctr = c.id
  · obtain ⟨w, hw, hwc⟩ := hw
    obtain ⟨hnot, hlive⟩ := hg w hw
    rw [hst _ (by rw [writesTo_id, ← hwc]; exact hnot), writesTo_state]
    rcases hlive with e | hl
    · exact absurd (hwc ▸ e) hself
    · exact hl c hcs hwc.symm
  · rw [writesTo_untouched ws c (fun w hw' e => hw ⟨w, hw', e⟩)] at hr
    exact absurd hr (hn f)

theorem ok_nil {P : Msg → Prop} {adj : Option Fields} {ups : List Msg} (hr : Reply.ok none [] = .ok adj ups) :
    ∀ m ∈ ups, P m := by cases hr; exact fun _ hm => nomatch hm

/-- all a well-behaved request needs of the cache: no update waits in it -/
theorem goodEv_step (s : St) (e : Ev) (hn : ∀ c ∈ s, ∀ f, c.req ≠ some (.update, f)) (hg : GoodEv s e) :
    DeadQuiet (step s e).1 ∧
    ∀ adj ups, (step s e).2 = .ok adj ups → ∀ m ∈ ups, ∃ c ∈ (step s e).1, c.id = m.id ∧ isLive c.state = true := by
  cases e with
  | create id init old ws ok =>
    obtain ⟨rfl, hgw⟩ := hg
    rw [step_create_ok]
    refine collect_good _ _ (List.forall_mem_cons.mpr ⟨fun f hr => ?_, fun p hp f hr => ?_⟩)
    · rw [(new_clean id init ws).1] at hr; cases hr
    · obtain ⟨c, hcs, hne, rfl⟩ := mem_others hp
      exact upd_req_origin hgw (markOld_req old id) (fun _ => markOld_state old id) c hcs (hn c hcs)
        (fun e => hne (Option.some.inj e)) f hr
  | start id =>
    exact ⟨List.forall_mem_map.mpr fun c hcs _ f hr => hn c hcs f ((setSt_req id .running c).symm.trans hr), fun _ _ => ok_nil⟩
  | update ws ok | push ws ok =>
    obtain ⟨rfl, hgw⟩ := hg
    refine collect_good none none ?_
    rw [applyWrites_eq]
    exact List.forall_mem_map.mpr fun c hcs f hr =>
      upd_req_origin hgw (g := id) (fun _ => rfl) (fun _ _ => rfl) c hcs (hn c hcs) (Option.some_ne_none _) f hr
  | stop id ws ok =>
    obtain ⟨rfl, hgw⟩ := hg
    by_cases hk : s.any (fun c => c.id = id) = true
    · rw [step_stop_ok ws hk]
      refine collect_good _ _ ?_
      rw [applyWrites_eq, setState_eq]
      exact List.forall_mem_map.mpr <| List.forall_mem_map.mpr fun c hcs f hr =>
        upd_req_origin hgw (setSt_req id .exited) (fun c hne => congrArg Ctr.state (setSt_other (fun e => hne (congrArg some e)) _))
          c hcs (hn c hcs) (Option.some_ne_none _) f hr
    · rw [step_stop_unknown ws hk]; exact ⟨fun c hc _ => hn c hc, fun _ _ => ok_nil⟩
  | remove id => exact ⟨fun c hcm _ => hn c (List.mem_filter.mp hcm).1, fun _ _ => ok_nil⟩

theorem good_step (s : St) (e : Ev) (h : Inv s) (hc : LiveClean s) (hq : DeadQuiet s) (hw : WfEv s e) (hg : GoodEv s e) :
    DeadQuiet (step s e).1 ∧
    ∀ adj ups, (step s e).2 = .ok adj ups → ∀ m ∈ ups, ∃ c ∈ (step s e).1, c.id = m.id ∧ isLive c.state = true :=
  goodEv_step s e (no_update_waits h hc hq) hg

/-- states reachable from the empty cache by requests the runtime can send (any policy behaviour,
any mixture of successful and refused requests) -/
inductive Reach : St → Prop where
  | init : Reach []
  | step {s : St} (e : Ev) : Reach s → WfEv s e → Reach (step s e).1

/-- states reachable when the policy behaves and no request is refused -/
inductive GoodReach : St → Prop where
  | init : GoodReach []
  | step {s : St} (e : Ev) : GoodReach s → WfEv s e → GoodEv s e → GoodReach (step s e).1

theorem reach_inv {s : St} (h : Reach s) : Inv s := by
  induction h with
  | init => exact inv_init
  | step e _ hw ih => exact inv_step _ e ih hw

theorem goodEv_ok (s : St) (e : Ev) (hg : GoodEv s e) : ∃ adj ups, (step s e).2 = .ok adj ups := by
  cases e with
  | start id | remove id => exact ⟨_, _, rfl⟩
  | create id init old ws ok | update ws ok | push ws ok => obtain ⟨rfl, _⟩ := hg; exact ⟨_, _, rfl⟩
  | stop id ws ok =>
    obtain ⟨rfl, _⟩ := hg
    by_cases hk : s.any (fun c => c.id = id) = true
    · rw [step_stop_ok ws hk]; exact ⟨_, _, rfl⟩
    · rw [step_stop_unknown ws hk]; exact ⟨_, _, rfl⟩

theorem good_reach {s : St} (h : GoodReach s) : Inv s ∧ LiveClean s ∧ DeadQuiet s := by
  induction h with
  | init => exact ⟨inv_init, (fun _ h => nomatch h), fun _ h => nomatch h⟩
  | step e _ hw hg ih =>
    obtain ⟨adj, ups, hr⟩ := goodEv_ok _ e hg
    exact ⟨inv_step _ e ih.1 hw, clean_step _ e ih.1 hw ih.2.1 adj ups hr, (good_step _ e ih.1 ih.2.1 ih.2.2 hw hg).1⟩

end Nri.PipeLife
