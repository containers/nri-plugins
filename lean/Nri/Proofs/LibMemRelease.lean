import Nri.Proofs.LibMemTxn
/-!
C09, memory half: releasing every allocation - in any order, with any repetitions and unknown
ids in between - leaves no request behind, hence zero usage of every node set.  Core Lean only.
-/
namespace Nri.LibMem

def Assigned (s : St) : Prop := ∀ q ∈ s.reqs, q.zone ≠ 0

/-- with every request assigned, `Release id` removes exactly the requests named `id` (none if
the id is unknown), whatever it returns. -/
theorem Release_reqs (s : St) (ha : Assigned s) (id : String) :
    (s.Release id).1.reqs = s.reqs.filter (·.id != id) := by
  rcases Release_view s id with ⟨hr, heq, _⟩ | ⟨r, hr, hz, _⟩ | ⟨_, _, _, _, heq⟩
  · rw [heq]
    exact (List.filter_eq_self.2 fun x hx => by simpa using List.find?_eq_none.1 hr x hx).symm
  · exact absurd hz (ha r (req?_some hr).1)
  · rw [heq]; rfl

/-- releasing a list of ids one after the other -/
def St.releaseAll (s : St) (ids : List String) : St := ids.foldl (fun s id => (s.Release id).1) s

theorem releaseAll_reqs (ids : List String) : ∀ (s : St), Assigned s →
    (s.releaseAll ids).reqs = s.reqs.filter (fun r => !ids.contains r.id) := by
  induction ids with
  | nil => intro s _; exact (List.filter_eq_self.2 fun _ _ => rfl).symm
  | cons id ids ih =>
    intro s ha
    have h1 := Release_reqs s ha id
    show ((s.Release id).1.releaseAll ids).reqs = _
    rw [ih _ (fun q hq => ha q (List.mem_filter.1 (h1 ▸ hq)).1), h1, List.filter_filter]
    refine List.filter_congr fun x _ => ?_
    by_cases e : x.id = id <;> simp [e]

theorem releaseAll_empty (s : St) (ha : Assigned s) (ids : List String) (hall : ∀ q ∈ s.reqs, q.id ∈ ids) :
    (s.releaseAll ids).reqs = [] ∧ ∀ z, (s.releaseAll ids).zoneUsage z = 0 := by
  have hnil : (s.releaseAll ids).reqs = [] := by
    rw [releaseAll_reqs ids s ha]
    exact List.filter_eq_nil_iff.2 fun x hx => by simp [hall x hx]
  exact ⟨hnil, fun z => by unfold St.zoneUsage; rw [hnil]; rfl⟩

end Nri.LibMem
