import Nri.Proofs.LibMemTxn
/-!
C07 placement rules inside a transaction: relative to the base state every request's zone only
grows (`Track.mono`), requests of Reservation priority other than the one the transaction is
about stay where they are (`Track.resv`), every request sits in a zone with normal memory
(`Track.normal`).  Established by the first move, kept by overcommit resolution through the
combinator, carried over to the states `Allocate` and `Realloc` leave (`Track.congr`).  Core Lean only.
-/
namespace Nri.LibMem

theorem normalMask_of_nodes (s s' : St) (h : s'.nodes = s.nodes) : s'.normalMask = s.normalMask := by
  unfold St.normalMask; rw [h]

/-- `s` is a state inside a transaction that started from `b`, or (with `b` the state before the
operation: `AllocateOK.track`, `ReallocOK.track`) the state a successful operation leaves; `ex` is the
request the transaction is about (the new request of an allocation, the re-allocated request). -/
structure Track (b : St) (ex : String) (s : St) : Prop where
  mono : ∀ q ∈ s.reqs, msub (zoneIn b q.id) q.zone = true
  resv : ∀ q ∈ s.reqs, 32766 < q.prio → q.id ≠ ex → q.zone = zoneIn b q.id
  normal : ∀ q ∈ s.reqs, q.zone &&& s.normalMask ≠ 0
  nodes : s.nodes = b.nodes

/-- every request sits in a zone that has a node with normal memory (in particular it is assigned) -/
def Placed (s : St) : Prop := ∀ q ∈ s.reqs, q.zone &&& s.normalMask ≠ 0

theorem Placed.assigned {s : St} (h : Placed s) : ∀ q ∈ s.reqs, q.zone ≠ 0 := fun q hq => and_ne_zero_left (h q hq)

theorem placed_of_reqs_eq (s s' : St) (hp : Placed s) (hr : s'.reqs = s.reqs) (hn : s'.nodes = s.nodes) : Placed s' :=
  fun q hq => normalMask_of_nodes s s' hn ▸ hp q (hr ▸ hq)

/-- the first move: besides the transaction's data, the other requests are placed (`hoth`) and the target has
normal memory (`hnorm`) -/
theorem track_first {b : St} {r : Req} {t : Mask} (h : Txn b r t)
    (hoth : ∀ q ∈ b.reqs, q.id ≠ r.id → q.zone &&& b.normalMask ≠ 0) (hnorm : t &&& b.normalMask ≠ 0) :
    Track b r.id (b.startJournal.zoneMove t r.id) :=
  have hz := fun q hq => zoneIn_of_mem b h.wf.ids q hq
  ⟨forall_mem_zoneMove (s := b.startJournal) h.wf.ids h.mem t (fun q hq _ => hz q hq ▸ msub_refl _) (hz r h.mem ▸ h.sub),
    forall_mem_zoneMove (s := b.startJournal) h.wf.ids h.mem t (fun q hq _ _ _ => (hz q hq).symm) (fun _ hne => absurd rfl hne),
    normalMask_of_nodes b _ (zoneMove_nodes b.startJournal t r.id) ▸
      forall_mem_zoneMove (s := b.startJournal) h.wf.ids h.mem t hoth hnorm,
    zoneMove_nodes _ _ _⟩

theorem track_move (b : St) (ex : String) (nodes0 : Mask) (s : St) (r : Req) (nodes : Mask) (h : Track b ex s)
    (hm : MoveOK s nodes0 r nodes) : Track b ex (s.zoneMove (r.zone ||| nodes) r.id) :=
  ⟨forall_mem_zoneMove hm.ids hm.mem _ (fun q hq _ => h.mono q hq) (msub_or_right nodes (h.mono r hm.mem)),
    forall_mem_zoneMove hm.ids hm.mem _ (fun q hq _ => h.resv q hq) (fun hp _ => absurd hm.prio (by simpa using hp)),
    normalMask_of_nodes s _ (zoneMove_nodes s (r.zone ||| nodes) r.id) ▸ forall_mem_zoneMove hm.ids hm.mem _
      (fun q hq _ => h.normal q hq) (and_ne_zero_of_msub (msub_or_self r.zone nodes) (h.normal r hm.mem)),
    (zoneMove_nodes _ _ _).trans h.nodes⟩

theorem txn_track {b : St} {r : Req} {t : Mask} (h : Txn b r t)
    (hoth : ∀ q ∈ b.reqs, q.id ≠ r.id → q.zone &&& b.normalMask ≠ 0) (hnorm : t &&& b.normalMask ≠ 0) :
    Track b r.id (b.txn t r.id).1 :=
  txn_pres h (Track b r.id) (fun _ _ ht => ⟨ht.mono, ht.resv, ht.normal, ht.nodes⟩)
    (fun s q n ht hm => track_move b r.id t s q n ht hm) (track_first h hoth hnorm)

/-- `Track` reads ids, priorities and zones of the requests, and the base state through `zoneIn` only -/
theorem Track.congr {b b' F F' : St} {ex : String} (h : Track b ex F) (f : Req → Req)
    (hf : ∀ q, (f q).id = q.id ∧ (f q).prio = q.prio ∧ (f q).zone = q.zone) (hr : F'.reqs = F.reqs.map f) (hn : F'.nodes = F.nodes)
    (hz : ∀ id, zoneIn b id = zoneIn b' id) (hbn : b'.nodes = b.nodes) : Track b' ex F' := by
  refine ⟨?_, ?_, ?_, hn.trans (h.nodes.trans hbn.symm)⟩ <;> rw [hr, List.forall_mem_map]
  · intro q hq; rw [(hf q).1, (hf q).2.2, ← hz]; exact h.mono q hq
  · intro q hq; rw [(hf q).1, (hf q).2.1, (hf q).2.2, ← hz]; exact h.resv q hq
  · intro q hq; rw [(hf q).2.2, normalMask_of_nodes F F' hn]; exact h.normal q hq

theorem AllocateOK.track {s : St} {r r' : Req} (ha : AllocateOK s r r') (hw : WF s) (hp : Placed s) :
    Track s r.id (s.Allocate r).1 := by
  have ht : Track (withNew s r') r'.id (s.allocTxn r').1 := txn_track (r := { r' with zone := 0 }) (ha.valid.txn hw)
    (fun q hq hid => ((mem_withNew ..).1 hq).elim (hp q) fun e => absurd (e ▸ rfl) hid) ha.valid.normal
  rw [ha.state, ← ha.valid.id]
  -- as a variable, the transaction's final state costs the unifier nothing
  generalize (s.allocTxn r').1 = F at ht
  exact ht.congr id (fun _ => ⟨rfl, rfl, rfl⟩) (List.map_id _).symm (committed_nodes F) (zoneIn_withNew s r') rfl

theorem ReallocOK.track {s : St} {nodes : Mask} {types : Nat} {r : Req} {n1 : Mask} {t1 : Nat} {nn : Mask} {nt : Nat}
    (ha : ReallocOK s nodes types r n1 t1 nn nt) (hw : WF s) (hp : Placed s) : Track s r.id (s.Realloc r.id nodes types).1 := by
  have ht := txn_track (ha.txn hw) (fun q hq _ => hp q hq) (and_ne_zero_of_msub (ha.txn hw).sub (hp r ha.mem))
  rw [ha.state]
  generalize (s.txn (r.zone ||| n1 ||| nn) r.id).1 = F at ht
  exact ht.congr (addTypes r.id nt) (fun q => ⟨addTypes_id .., addTypes_prio .., addTypes_zone ..⟩)
    (recorded_reqs F r.id nt) (recorded_nodes F r.id nt) (fun _ => rfl) rfl

end Nri.LibMem
