import Nri.Model.Annot
import Nri.Proofs.Assoc
/-! Helper lemmas for C18: lookup in association lists (`aget`/`aset` are `Assoc.get`/`Assoc.set` at strings;
`aget` after `associate`), and that the suffix-classified fold computes an order-free specification. -/
namespace Nri.Annot

theorem aget_cons (p : String × String) (m : AMap) (k : String) :
    aget (p :: m) k = if p.1 = k then some p.2 else aget m k := Assoc.get_cons p m k

theorem aget_eq_some_iff_mem (m : AMap) (hn : (m.map (·.1)).Nodup) (k v : String) :
    aget m k = some v ↔ (k, v) ∈ m := by
  constructor
  · intro h
    obtain ⟨p, hp, rfl⟩ := Option.map_eq_some_iff.1 h
    have hk := List.find?_some hp
    exact eq_of_beq hk ▸ List.mem_of_find?_eq_some hp
  · intro h
    rw [aget, find?_key_of_mem (·.1) hn h]; rfl

theorem aget_aset (m : AMap) (k k' v : String) :
    aget (aset m k v) k' = if k' = k then some v else aget m k' := Assoc.get_set m k k' v

theorem aget_associate (m : AMap) (k v k' : String) (ov : Bool) :
    aget (associate m k v ov) k' =
      if (ov || (aget m k).isNone) ∧ k' = k then some v else aget m k' := by
  unfold associate
  split
  · rename_i h; rw [aget_aset]; simp only [h, true_and]
  · rename_i h; rw [if_neg fun hh => h hh.1]

/-- order-free specification of the suffix-classified fold: a container-specific entry for
prefix `p` wins, else the pod-level one. -/
def Spec (entries : List (Cls × String)) (p v : String) : Prop :=
  (Cls.ctr p, v) ∈ entries ∨ ((∀ w, (Cls.ctr p, w) ∉ entries) ∧ (Cls.pod p, v) ∈ entries)

/-- what the fold theorems assume of the classified entries: distinct annotation keys classify to distinct
(non-`other`) classes.  True of real annotation maps (Go map keys are unique and a key determines its class);
not derived from `classify` here, sampled by the run. -/
def UniqCls (entries : List (Cls × String)) : Prop :=
  entries.Pairwise (fun a b => a.1 = Cls.other ∨ b.1 = Cls.other ∨ a.1 ≠ b.1)

theorem uniqCls_perm (l l' : List (Cls × String)) (hp : l.Perm l') (hu : UniqCls l) : UniqCls l' :=
  hp.pairwise hu fun h => by
    rcases h with h | h | h
    · exact Or.inr (Or.inl h)
    · exact Or.inl h
    · exact Or.inr (Or.inr (Ne.symm h))

/-- one more entry `(c, x)`, processed after those of `done` -/
theorem effStep_spec (done : List (Cls × String)) (acc : AMap) (c : Cls) (x : String)
    (hinv : ∀ p v, aget acc p = some v ↔ Spec done p v) (hnew : c ≠ Cls.other → ∀ w, (c, w) ∉ done) (p v : String) :
    aget (effStep acc (c, x)) p = some v ↔ Spec ((c, x) :: done) p v := by
  cases c with
  | other => simp [effStep, hinv p v, Spec]
  | ctr q =>
    have hq := hnew nofun
    simp only [effStep, aget_associate, Bool.true_or, true_and]
    by_cases e : p = q
    · subst e; simp [Spec, hq, eq_comm]
    · simp [e, hinv p v, Spec]
  | pod q =>
    have hq := hnew nofun
    simp only [effStep, aget_associate, Bool.false_or]
    by_cases e : p = q
    · subst e
      -- no pod-wide entry for `p` so far: the current value, if any, is the container's
      have hs : ∀ w, aget acc p = some w ↔ (Cls.ctr p, w) ∈ done := fun w => by simp [hinv p w, Spec, hq]
      cases ha : aget acc p with
      | none =>
        have hno : ∀ w, (Cls.ctr p, w) ∉ done := fun w hw => by simpa [ha] using (hs w).2 hw
        simp [Spec, hno, hq, eq_comm]
      | some y => simp [Spec, ← hs, ha]
    · simp [e, hinv p v, Spec]

theorem effFold_spec (entries : List (Cls × String)) (hu : UniqCls entries) (p v : String) :
    aget (effFold entries) p = some v ↔ Spec entries p v := by
  -- latest entry first: `effFold` is a `foldr` over the reversed list; `Spec` and `UniqCls` do not see the order
  have hr : ∀ r : List (Cls × String), UniqCls r → ∀ p v,
      aget (r.foldr (fun e acc => effStep acc e) []) p = some v ↔ Spec r p v := by
    intro r
    induction r with
    | nil => intro _ p v; simp [aget, Spec]
    | cons e r ih =>
      intro hu
      obtain ⟨he, hu⟩ := List.pairwise_cons.1 hu
      exact effStep_spec r _ e.1 e.2 (ih hu) fun hc w hm => by
        rcases he (e.1, w) hm with h | h | h
        · exact hc h
        · exact hc h
        · exact h rfl
  rw [effFold, List.foldl_eq_foldr_reverse, hr _ (uniqCls_perm _ _ (List.reverse_perm entries).symm hu)]
  simp only [Spec, List.mem_reverse]

end Nri.Annot
