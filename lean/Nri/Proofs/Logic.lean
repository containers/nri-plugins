/-! Lemmas that belong to no model (a decision-list peeler, a loop that stops at its first error, lists as sets,
first-match lookup by a key, what core lacks about `Nodup`, `max` and `min`).  Core Lean only. -/
namespace Nri

/-- peels one `if` off a decision list in a hypothesis `… = v`; under `simp only` together with the
constructor lemmas the branches whose value cannot be `v` disappear -/
theorem ite_eq_iff' {α : Sort _} {p : Prop} [Decidable p] {a b c : α} :
    (if p then a else b) = c ↔ p ∧ a = c ∨ ¬p ∧ b = c := by
  split <;> simp [*]

/-- for a loop that returns at the first error: a successful run `… = some u` is then taken apart by
`List.foldlM_cons`, `List.foldlM_append` and `Option.bind_eq_some_iff` -/
theorem foldl_eq_foldlM {α β : Type} {F : Option β → α → Option β} {f : β → α → Option β}
    (hnone : ∀ e, F none e = none) (hsome : ∀ x e, F (some x) e = f x e) (l : List α) (b : Option β) :
    l.foldl F b = b.bind (l.foldlM f) := by
  induction l generalizing b with
  | nil => cases b <;> rfl
  | cons e es ih =>
    rw [List.foldl_cons, ih]
    cases b with
    | none => rw [hnone]; rfl
    | some x => rw [hsome, Option.bind_some, List.foldlM_cons]; rfl

/-! CPU and id sets are lists, and every model that has them writes difference, intersection and union this way
(`rm`/`inter`/`uni` of the topology-aware model, `sdiff`/`sinter` of the pool tree, the bodies of the balloon
operations and of the CPU allocator's `take`) -/

theorem mem_diff {l m : List Nat} {x : Nat} : x ∈ l.filter (fun y => !m.contains y) ↔ x ∈ l ∧ x ∉ m := by simp

theorem mem_inter {l m : List Nat} {x : Nat} : x ∈ l.filter (fun y => m.contains y) ↔ x ∈ l ∧ x ∈ m := by simp

theorem mem_union {l m : List Nat} {x : Nat} : x ∈ l ++ m.filter (fun y => !l.contains y) ↔ x ∈ l ∨ x ∈ m := by
  by_cases x ∈ l <;> simp [*]

theorem nodup_concat {α} {l : List α} {a : α} (h : l.Nodup) (ha : a ∉ l) : (l ++ [a]).Nodup :=
  List.nodup_append.2 ⟨h, List.pairwise_singleton _ a, fun _ hx _ hy e => ha (List.mem_singleton.1 hy ▸ e ▸ hx)⟩

/-- lookup of the first entry with a given key (`St.req?` of libmem, `aget` of the annotation maps): where
no key repeats, every entry is the one found under its key -/
theorem find?_key_of_mem {α κ : Type} [BEq κ] [LawfulBEq κ] (key : α → κ) {l : List α}
    (hnd : (l.map key).Nodup) {a : α} (ha : a ∈ l) : l.find? (key · == key a) = some a := by
  induction l with
  | nil => cases ha
  | cons x xs ih =>
    rw [List.map_cons, List.nodup_cons] at hnd
    rcases List.mem_cons.1 ha with rfl | hm
    · exact List.find?_cons_of_pos (p := (key · == key a)) (beq_self_eq_true _)
    · have hx : ¬(key x == key a) = true := fun e => hnd.1 (eq_of_beq e ▸ List.mem_map_of_mem hm)
      rw [List.find?_cons_of_neg (p := (key · == key a)) hx]
      exact ih hnd.2 hm

/-! core has no monotonicity of `max`/`min` in one argument -/

theorem max_le_max_left (c : Nat) {a b : Nat} (h : a ≤ b) : max c a ≤ max c b :=
  Nat.max_le.2 ⟨Nat.le_max_left c b, Nat.le_trans h (Nat.le_max_right c b)⟩

theorem min_le_min_right (c : Nat) {a b : Nat} (h : a ≤ b) : min a c ≤ min b c :=
  Nat.le_min.2 ⟨Nat.le_trans (Nat.min_le_left a c) h, Nat.min_le_right a c⟩

end Nri
