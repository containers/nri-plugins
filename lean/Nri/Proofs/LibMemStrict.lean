import Nri.Proofs.LibMemTxn
/-!
C07 "a request with strict type preference is assigned only nodes of the requested types".
Bit-level facts about `zoneType`, `byTypes`, `newCloseNodesOfType` and `expand`; the invariant
`StrictInvG G` (every strict request's zone has only types of `types ||| G id`, where the ghost
record `G id` collects the types that successful re-allocations of `id` named or implied by their
nodes - the reading of "requested types" fixed in DESIGN §6.0); its preservation by `Allocate`
and `Realloc`.  `StrictInv` is the case of an empty record.  Core Lean only.
-/
namespace Nri.LibMem

theorem bit_testBit (i k : Nat) : (bit i).testBit k = decide (i = k) := by
  unfold bit
  rw [Nat.one_shiftLeft, Nat.testBit_two_pow]

/-- the one fact about `foldl (|||)` over the node table behind `zoneType`, `byTypes` and `all` -/
theorem foldl_or_testBit (l : List Node) (P : Node → Prop) [DecidablePred P] (f : Node → Nat) (init k : Nat) :
    (l.foldl (fun m n => if P n then m ||| bit (f n) else m) init).testBit k =
      (init.testBit k || l.any (fun n => decide (P n) && decide (f n = k))) := by
  induction l generalizing init with
  | nil => simp
  | cons n l ih =>
    simp only [List.foldl_cons, List.any_cons]
    rw [ih]
    by_cases hp : P n
    · simp only [hp, if_true, Nat.testBit_or, bit_testBit, decide_true, Bool.true_and, Bool.or_assoc]
    · simp only [hp, if_false, decide_false, Bool.false_and, Bool.false_or]

theorem zoneType_testBit (s : St) (z : Mask) (k : Nat) :
    (s.zoneType z).testBit k = true ↔ ∃ n ∈ s.nodes, z.testBit n.id = true ∧ n.typ = k := by
  unfold St.zoneType
  rw [foldl_or_testBit s.nodes (fun n => z.testBit n.id = true) (fun n => n.typ) 0 k]
  simp only [Nat.zero_testBit, Bool.false_or, List.any_eq_true, Bool.and_eq_true, decide_eq_true_eq]

theorem byTypes_testBit (s : St) (t : Nat) (i : Nat) :
    (s.byTypes t).testBit i = true ↔ ∃ n ∈ s.nodes, (n.cap > 0 ∧ t.testBit n.typ = true) ∧ n.id = i := by
  unfold St.byTypes
  rw [foldl_or_testBit s.nodes (fun n => n.cap > 0 ∧ t.testBit n.typ = true) (fun n => n.id) 0 i]
  simp only [Nat.zero_testBit, Bool.false_or, List.any_eq_true, Bool.and_eq_true, decide_eq_true_eq]

theorem all_testBit (s : St) (i : Nat) : s.all.testBit i = true ↔ ∃ n ∈ s.nodes, n.id = i := by
  have := foldl_or_testBit s.nodes (fun _ => True) (fun n => n.id) 0 i
  simp only [if_true] at this
  unfold St.all
  rw [this]
  simp

theorem zoneType_or (s : St) (a b : Mask) : s.zoneType (a ||| b) = s.zoneType a ||| s.zoneType b := by
  apply Nat.eq_of_testBit_eq
  intro k
  rw [Nat.testBit_or]
  apply Bool.eq_iff_iff.2
  rw [Bool.or_eq_true, zoneType_testBit, zoneType_testBit, zoneType_testBit]
  constructor
  · intro ⟨n, hn, hz, ht⟩
    rw [Nat.testBit_or, Bool.or_eq_true] at hz
    exact hz.imp (fun h => ⟨n, hn, h, ht⟩) (fun h => ⟨n, hn, h, ht⟩)
  · rintro (⟨n, hn, hz, ht⟩ | ⟨n, hn, hz, ht⟩)
    · exact ⟨n, hn, by rw [Nat.testBit_or, hz]; rfl, ht⟩
    · exact ⟨n, hn, by rw [Nat.testBit_or, hz]; simp, ht⟩

theorem zoneType_zero (s : St) : s.zoneType 0 = 0 := by
  apply Nat.eq_of_testBit_eq
  intro k
  apply Bool.eq_iff_iff.2
  rw [zoneType_testBit]
  simp

theorem zoneType_mono (s : St) {a b : Mask} (h : msub a b = true) : msub (s.zoneType a) (s.zoneType b) = true := by
  rw [msub_iff] at h ⊢
  intro k hk
  rw [zoneType_testBit] at hk ⊢
  obtain ⟨n, hn, hz, ht⟩ := hk
  exact ⟨n, hn, h _ hz, ht⟩

theorem zoneType_and_all (s : St) (z : Mask) : s.zoneType (z &&& s.all) = s.zoneType z := by
  apply Nat.eq_of_testBit_eq
  intro k
  apply Bool.eq_iff_iff.2
  rw [zoneType_testBit, zoneType_testBit]
  constructor
  · intro ⟨n, hn, hz, ht⟩
    rw [Nat.testBit_and, Bool.and_eq_true] at hz
    exact ⟨n, hn, hz.1, ht⟩
  · intro ⟨n, hn, hz, ht⟩
    refine ⟨n, hn, ?_, ht⟩
    rw [Nat.testBit_and, hz, (all_testBit s n.id).2 ⟨n, hn, rfl⟩]; rfl

/-- node ids are unique (`newAllocator` refuses duplicate ids) -/
def NodesUniq (s : St) : Prop := ∀ n ∈ s.nodes, ∀ n' ∈ s.nodes, n.id = n'.id → n = n'

theorem zoneType_sub_of_byTypes (s : St) (hu : NodesUniq s) (z : Mask) (t : Nat) (h : msub z (s.byTypes t) = true) :
    msub (s.zoneType z) t = true := by
  rw [msub_iff] at h ⊢
  intro k hk
  rw [zoneType_testBit] at hk
  obtain ⟨n, hn, hz, ht⟩ := hk
  have := h _ hz
  rw [byTypes_testBit] at this
  obtain ⟨n', hn', ⟨_, htt⟩, hid⟩ := this
  cases hu n' hn' n hn hid
  exact ht ▸ htt

theorem msub_mdiff (a b : Mask) : msub (mdiff a b) a = true := by
  rw [msub_iff]
  intro i h
  unfold mdiff at h
  rw [Nat.testBit_xor, Nat.testBit_and] at h
  cases ha : a.testBit i with
  | true => rfl
  | false => simp [ha] at h

theorem msub_bit (t types : Nat) (h : types.testBit t = true) : msub (bit t) types = true := by
  rw [msub_iff]
  intro i hi
  rw [bit_testBit] at hi
  exact (of_decide_eq_true hi) ▸ h

theorem newClose_sub (s : St) (zone : Mask) (t : Nat) :
    msub (s.newCloseNodesOfType zone t) (s.byTypes (bit t)) = true := by
  unfold St.newCloseNodesOfType
  dsimp only
  refine msub_trans (List.foldlRecOn (motive := fun (acc : Mask × Option Nat) => msub acc.1 (mdiff (s.byTypes (bit t)) zone) = true)
    _ _ (b := (0, none)) (msub_zero _) fun acc h id _ => ?_) (msub_mdiff _ _)
  -- every candidate class is intersected with the candidate mask before it is added
  split
  · exact h
  · split
    · exact h
    · split <;> (try split) <;> first | exact h | exact msub_or_of _ _ _ h (msub_and_right _ _)

theorem expand_types (s : St) (hu : NodesUniq s) (zone : Mask) (ts : Nat) :
    msub (s.zoneType (s.expand zone ts).1) (s.expand zone ts).2 = true ∧ msub (s.expand zone ts).2 ts = true := by
  unfold St.expand
  refine List.foldlRecOn (motive := fun (acc : Mask × Nat) => msub (s.zoneType acc.1) acc.2 = true ∧ msub acc.2 ts = true)
    _ _ ⟨by rw [zoneType_zero]; exact msub_zero _, msub_zero _⟩ fun acc h t _ => ?_
  split
  · rename_i ht
    dsimp only
    split
    · exact ⟨zoneType_or s _ _ ▸ msub_or_or h.1 (zoneType_sub_of_byTypes s hu _ _ (newClose_sub s zone t)),
        msub_or_of _ _ _ h.2 (msub_bit t ts ht)⟩
    · exact h
  · exact h

theorem zoneType_nodes (s s' : St) (h : s'.nodes = s.nodes) (z : Mask) : s'.zoneType z = s.zoneType z := by
  unfold St.zoneType; rw [h]

theorem nodesUniq_of_nodes (s s' : St) (h : s'.nodes = s.nodes) (hu : NodesUniq s) : NodesUniq s' := by
  unfold NodesUniq at *; rw [h]; exact hu

/-- every strict request sits on nodes of its requested types only -/
def StrictInv (s : St) : Prop := ∀ q ∈ s.reqs, q.strict = true → msub (s.zoneType q.zone) q.types = true

/-- `StrictInv` together with the uniqueness of node ids it is inductive with; `SUG` likewise for `StrictInvG` -/
def SU (s : St) : Prop := NodesUniq s ∧ StrictInv s

/-- every strict request sits on nodes whose types are among its requested types (`types` field
or the ghost record `G` of types named by its re-allocations) -/
def StrictInvG (G : String → Nat) (s : St) : Prop :=
  ∀ q ∈ s.reqs, q.strict = true → msub (s.zoneType q.zone) (q.types ||| G q.id) = true

def SUG (G : String → Nat) (s : St) : Prop := NodesUniq s ∧ StrictInvG G s

theorem su_iff_sug (s : St) : SU s ↔ SUG (fun _ => 0) s := by
  simp only [SU, SUG, StrictInv, StrictInvG, Nat.or_zero]

theorem sug_of_reqs_eq (G : String → Nat) (s s' : St) (h : SUG G s) (hr : s'.reqs = s.reqs) (hn : s'.nodes = s.nodes) : SUG G s' :=
  ⟨nodesUniq_of_nodes s s' hn h.1, fun q hq hs => zoneType_nodes s s' hn _ ▸ h.2 q (hr ▸ hq) hs⟩

theorem sug_mono (G G' : String → Nat) (s : St) (h : SUG G s) (hle : ∀ id, msub (G id) (G' id) = true) : SUG G' s :=
  ⟨h.1, fun q hq hs => msub_trans (h.2 q hq hs) (msub_or_or (msub_refl _) (hle q.id))⟩

theorem sug_set (G : String → Nat) (s : St) (h : SUG G s) (hnd : IdsNodup s) (r : Req) (hr : r ∈ s.reqs) (t : Mask)
    (ht : r.strict = true → msub (s.zoneType t) (r.types ||| G r.id) = true) : SUG G (s.zoneMove t r.id) := by
  have hn := zoneMove_nodes s t r.id
  refine ⟨nodesUniq_of_nodes s _ hn h.1, forall_mem_zoneMove hnd hr t (fun q hq _ hs => ?_) fun hs => ?_⟩
  · rw [zoneType_nodes s _ hn]; exact h.2 q hq hs
  · rw [zoneType_nodes s _ hn]; exact ht hs

theorem sug_move (G : String → Nat) (nodes0 : Mask) (s : St) (r : Req) (nodes : Mask) (h : SUG G s) (hm : MoveOK s nodes0 r nodes) :
    SUG G (s.zoneMove (r.zone ||| nodes) r.id) := by
  refine sug_set G s h hm.ids r hm.mem _ fun hs => msub_or_right _ ?_
  -- a strict request is moved only if its types are the zone's plus those of the added nodes
  obtain ⟨s0, extra, ty, hn0, hexp, hst⟩ := hm.strictOk
  have := (expand_types s0 (nodesUniq_of_nodes s s0 hn0 h.1) r.zone (s0.zoneType r.zone ||| extra)).1
  rw [hexp] at this
  rw [hst hs, zoneType_or, ← zoneType_nodes s s0 hn0, ← zoneType_nodes s s0 hn0]
  exact msub_or_or (msub_refl _) this

theorem txn_sug (G : String → Nat) {b : St} {r : Req} {t : Mask} (hT : Txn b r t) (h : SUG G b)
    (ht : r.strict = true → msub (b.zoneType t) (r.types ||| G r.id) = true) : SUG G (b.txn t r.id).1 :=
  txn_pres hT (SUG G) (fun _ _ h => h) (fun s q n h hm => sug_move G t s q n h hm)
    (sug_set G b.startJournal h hT.wf.ids r hT.mem t ht)

theorem findInitialZone_strict (s : St) (hu : NodesUniq s) (r : Req) (hs : r.strict = true) (z : Mask)
    (h : s.findInitialZone r = .ok z) : msub (s.zoneType z) r.types = true := by
  unfold St.findInitialZone at h
  simp only [hs, if_true] at h
  -- with or without the expansion for missing types, the zone is cut down to `byTypes r.types`
  split at h <;> split at h <;> cases h
  all_goals exact zoneType_sub_of_byTypes s hu _ _ (msub_and_right _ _)

theorem ensureNormalLoop_types (s : St) (hu : NodesUniq s) (types T : Nat) (hT : msub types T = true) :
    ∀ (fuel : Nat) (zone z' : Mask), msub (s.zoneType zone) T = true →
      s.ensureNormalLoop types fuel zone = some z' → msub (s.zoneType z') T = true := by
  intro fuel
  induction fuel with
  | zero => intro zone z' _ h; cases h
  | succ n ih =>
    intro zone z' hz h
    unfold St.ensureNormalLoop at h
    dsimp only at h
    have hgrow : msub (s.zoneType (zone ||| (s.expand zone types).1)) T = true := by
      rw [zoneType_or]
      exact msub_or_of _ _ _ hz (msub_trans (expand_types s hu zone types).1 (msub_trans (expand_types s hu zone types).2 hT))
    split at h
    · cases h
    · split at h
      · cases h; exact hgrow
      · exact ih _ _ hgrow h

theorem ensureNormalMemory_strict (s : St) (hu : NodesUniq s) (r : Req)
    (hz : msub (s.zoneType r.zone) r.types = true) (z : Mask) (t : Nat)
    (h : s.ensureNormalMemory r = .ok (z, t)) : msub (s.zoneType z) t = true := by
  rcases ensureNormalMemory_ok h with ⟨_, rfl, rfl⟩ | ⟨types, hloop, rfl⟩
  · exact hz
  · exact ensureNormalLoop_types s hu types (r.types ||| types) (Nat.or_comm _ _ ▸ msub_or_self types r.types)
      65 r.zone z (msub_or_right types hz) hloop

theorem Validated.strict_zone {s : St} {r r' : Req} (h : Validated s r r') (hu : NodesUniq s) (hs : r'.strict = true) :
    msub (s.zoneType r'.zone) r'.types = true := by
  obtain ⟨t1, z1, z2, t2, _, hf, hn, rfl⟩ := h
  exact ensureNormalMemory_strict s hu { r with types := t1, zone := z1 }
    (findInitialZone_strict s hu { r with types := t1 } hs z1 hf) z2 t2 hn

theorem AllocateOK.sug {s : St} {r r' : Req} (ha : AllocateOK s r r') (G : String → Nat) (hw : WF s) (h : SUG G s) :
    SUG G (s.Allocate r).1 := by
  rw [ha.state]
  refine sug_of_reqs_eq G _ _ (txn_sug G (r := { r' with zone := 0 }) (ha.valid.txn hw) ⟨h.1, fun q hq hs => ?_⟩
    fun hs => msub_or_right _ (ha.valid.strict_zone h.1 hs)) (committed_reqs _) (committed_nodes _)
  rcases (mem_withNew ..).1 hq with hq | rfl
  · exact h.2 q hq hs
  · exact (zoneType_zero _).symm ▸ msub_zero _

/-- the nodes a re-allocation asks for have only types it names (or implies) -/
theorem validateRealloc_types (s : St) (hu : NodesUniq s) (r : Req) (nodes : Mask) (types : Nat) (n1 : Mask) (t1 : Nat)
    (h : s.validateRealloc r nodes types = .ok (n1, t1, false)) : msub (s.zoneType n1) t1 = true := by
  -- only the last two branches answer "not done": the nodes as asked with the types they imply, or cut down to the types asked
  simp only [St.validateRealloc, ite_eq_iff', Except.ok.injEq, Prod.mk.injEq, Bool.true_eq_false, and_false, and_true,
    false_or, reduceCtorEq] at h
  obtain ⟨_, _, _, _, _, h⟩ := h
  rcases h with ⟨_, rfl, rfl⟩ | ⟨_, rfl, rfl⟩
  · rw [zoneType_and_all]; exact msub_refl _
  · exact zoneType_sub_of_byTypes s hu _ _ (msub_and_right _ _)

/-- recording the types `expand` found only enlarges the `types` field -/
theorem sug_recorded (G : String → Nat) (s : St) (id : String) (t : Nat) (h : SUG G s) : SUG G (s.recorded id t) := by
  refine ⟨nodesUniq_of_nodes _ _ (recorded_nodes ..) h.1, fun q' hq' hs => ?_⟩
  obtain ⟨q, hq, rfl⟩ := mem_recorded.1 hq'
  rw [zoneType_nodes _ _ (recorded_nodes ..), addTypes_zone, addTypes_id]
  refine msub_trans (h.2 q hq (by simpa using hs)) (msub_or_or ?_ (msub_refl _))
  unfold addTypes; split
  · exact msub_or_self _ _
  · exact msub_refl _

/-- the types a re-allocation names (or implies by its nodes); `0` when it is refused or a no-op -/
def St.reallocTypes (s : St) (id : String) (nodes : Mask) (types : Nat) : Nat :=
  match s.req? id with
  | none => 0
  | some r =>
    match s.validateRealloc r nodes types with
    | .ok (_, t1, false) => t1
    | _ => 0

def ghostAdd (G : String → Nat) (id : String) (t : Nat) : String → Nat := fun i => if i = id then G i ||| t else G i

theorem ghostAdd_le (G : String → Nat) (id : String) (t : Nat) (i : String) : msub (G i) (ghostAdd G id t i) = true := by
  unfold ghostAdd; split
  · exact msub_or_self _ _
  · exact msub_refl _

theorem ReallocOK.reallocTypes {s : St} {nodes : Mask} {types : Nat} {r : Req} {n1 : Mask} {t1 : Nat} {nn : Mask} {nt : Nat}
    (ha : ReallocOK s nodes types r n1 t1 nn nt) (hw : WF s) : s.reallocTypes r.id nodes types = t1 := by
  unfold St.reallocTypes; simp only [req?_of_mem s hw.ids r ha.mem, ha.valid]

/-- a successful re-allocation - of a strict request too - keeps the invariant once the ghost
record of the request is extended by the types the re-allocation named -/
theorem ReallocOK.sug {s : St} {nodes : Mask} {types : Nat} {r : Req} {n1 : Mask} {t1 : Nat} {nn : Mask} {nt : Nat}
    (ha : ReallocOK s nodes types r n1 t1 nn nt) (G : String → Nat) (hw : WF s) (h : SUG G s) :
    SUG (ghostAdd G r.id t1) (s.Realloc r.id nodes types).1 := by
  have hexp := expand_types s h.1 (r.zone ||| n1) t1
  rw [ha.expand] at hexp
  -- the target's types: those of the old zone, of the nodes asked for, and of what `expand` added
  have h1 := txn_sug _ (ha.txn hw) (sug_mono G (ghostAdd G r.id t1) s h (ghostAdd_le G r.id t1)) fun hs => by
    have hgid : ghostAdd G r.id t1 r.id = G r.id ||| t1 := by simp [ghostAdd]
    have ht1 : msub t1 (r.types ||| (G r.id ||| t1)) = true :=
      Nat.or_comm _ r.types ▸ Nat.or_comm t1 _ ▸ msub_or_right _ (msub_or_self _ _)
    rw [hgid, zoneType_or, zoneType_or]
    exact msub_or_of _ _ _ (msub_or_of _ _ _ (msub_trans (h.2 r ha.mem hs) (msub_or_or (msub_refl _) (msub_or_self _ _)))
      (msub_trans (validateRealloc_types s h.1 r nodes types n1 t1 ha.valid) ht1)) (msub_trans hexp.1 (msub_trans hexp.2 ht1))
  rw [ha.state]
  exact sug_recorded _ _ r.id nt h1

/-- the ghost record after one operation: a re-allocation adds the types it names to its request,
a release forgets the record of the released id -/
def ghostStep (G : String → Nat) (s : St) : Op → (String → Nat)
  | .realloc id nodes types =>
    match (s.Realloc id nodes types).2 with
    | .ok _ => ghostAdd G id (s.reallocTypes id nodes types)
    | .error _ => G
  | .release id =>
    match (s.Release id).2 with
    | .ok _ => fun i => if i = id then 0 else G i
    | .error _ => G
  | _ => G

def ghostRun : (String → Nat) → St → List Op → (String → Nat)
  | G, _, [] => G
  | G, s, op :: ops => ghostRun (ghostStep G s op) (s.step op) ops

end Nri.LibMem
