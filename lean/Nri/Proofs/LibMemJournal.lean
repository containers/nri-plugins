import Nri.Proofs.LibMemBase
/-!
The journal invariant `Good b s` - "`s` is `b` with some zones moved, and the journal knows how
to undo it" - is kept by `zoneMove`, hence (through the combinator) by overcommit resolution, and
`revertJournal` then restores `b`'s request list.  Core Lean only.
-/
namespace Nri.LibMem

def withZone (Z : String → Mask) (r : Req) : Req := { r with zone := Z r.id }

def revKeys (j : Journal) : List String := j.reverts.map (·.1)

-- `Z` gives the current zones.  A request the journal can revert is one of `b`, recorded with its zone in `b`, and
-- assigned now (`revertJournal` answers "internal error" for a request without a zone); every other request is where it was in `b`.
structure Good (b s : St) : Prop where
  ex : ∃ (Z : String → Mask) (j : Journal),
    s.reqs = b.reqs.map (withZone Z) ∧ s.journal = some j ∧
    (revKeys j).Nodup ∧
    (∀ p ∈ j.reverts, (∃ r ∈ b.reqs, r.id = p.1) ∧ p.2 = zoneIn b p.1 ∧ Z p.1 ≠ 0) ∧
    (∀ id, id ∉ revKeys j → Z id = zoneIn b id)
  nodes : s.nodes = b.nodes
  version : s.version = b.version

structure WF (s : St) : Prop where
  journal : s.journal = none
  ids : (s.reqs.map (·.id)).Nodup

theorem req?_of_map {b s : St} {Z : String → Mask} (h : s.reqs = b.reqs.map (withZone Z)) (id : String) :
    s.req? id = (b.req? id).map (withZone Z) := by
  unfold St.req?
  rw [h, List.find?_map]
  rfl

theorem map_setz_withZone (l : List Req) (Z : String → Mask) (id : String) (z : Mask) :
    (l.map (withZone Z)).map (setz id z) = l.map (withZone fun i => if i == id then z else Z i) := by
  rw [List.map_map]
  refine List.map_congr_left fun q _ => ?_
  by_cases e : q.id = id <;> simp [setz, withZone, e]

theorem map_withZone_zoneIn (b : St) (hnd : IdsNodup b) : b.reqs.map (withZone (zoneIn b)) = b.reqs :=
  (List.map_congr_left fun r hr => by rw [withZone, zoneIn_of_mem b hnd r hr]).trans (List.map_id' _)

theorem Journal.move_revKeys (j : Journal) (z0 t : Mask) (id : String) :
    revKeys (j.move z0 t id) = if id ∈ revKeys j then revKeys j else revKeys j ++ [id] := by
  unfold Journal.move revKeys
  by_cases h : id ∈ j.reverts.map (·.1) <;> simp [h, alGet_isSome_iff]

theorem Journal.mem_move_reverts (j : Journal) (z0 t : Mask) (id : String) (p : String × Mask) :
    p ∈ (j.move z0 t id).reverts ↔ p ∈ j.reverts ∨ (id ∉ revKeys j ∧ p = (id, z0)) := by
  unfold Journal.move revKeys
  by_cases h : id ∈ j.reverts.map (·.1) <;> simp [h, alGet_isSome_iff]

theorem zoneMove_good (b s : St) (hg : Good b s) (z : Mask) (hz : z ≠ 0) (id : String) :
    Good b (s.zoneMove z id) := by
  rcases zoneMove_cases s z id with e | ⟨r, hr, e⟩ <;> rw [e]
  · exact hg
  · obtain ⟨⟨Z, j, hreqs, hj, hnd, hrev, hfree⟩, hn, hv⟩ := hg
    -- `r` is a request of `b` with its zone replaced by `Z id`
    rw [req?_of_map hreqs] at hr
    obtain ⟨rb, hb, rfl⟩ := Option.map_eq_some_iff.1 hr
    obtain ⟨hbm, hbid⟩ := req?_some hb
    have hrz : (withZone Z rb).zone = Z id := by rw [← hbid]; rfl
    have hZ' : ∀ i, Z i ≠ 0 → (if i == id then z else Z i) ≠ 0 := fun i h => by split <;> assumption
    refine ⟨⟨fun i => if i == id then z else Z i, j.move (Z id) z id, ?_, ?_, ?_, ?_, ?_⟩, hn, hv⟩
    · show s.reqs.map (setz id z) = _
      rw [hreqs, map_setz_withZone]
    · show s.journal.map _ = _
      rw [hj, hrz]; rfl
    · rw [Journal.move_revKeys]
      split
      · exact hnd
      · rename_i hk; exact nodup_concat hnd hk
    · intro p hp
      rcases (Journal.mem_move_reverts ..).1 hp with hp | ⟨hk, rfl⟩
      · obtain ⟨h1, h2, h3⟩ := hrev p hp
        exact ⟨h1, h2, hZ' _ h3⟩
      · -- first move of `id` in this transaction: its zone was still the one of `b`
        exact ⟨⟨rb, hbm, hbid⟩, hfree id hk, by simp [hz]⟩
    · intro i hi
      rw [Journal.move_revKeys] at hi
      have : i ∉ revKeys j ∧ i ≠ id := by
        split at hi
        · rename_i hk; exact ⟨hi, fun e => hi (e ▸ hk)⟩
        · simpa using hi
      simp [this.2, hfree i this.1]

/-- all that most users of `Good` need: the request list is the base's with some zones replaced -/
theorem Good.reqs {b s : St} (hg : Good b s) : ∃ Z : String → Mask, s.reqs = b.reqs.map (withZone Z) :=
  let ⟨Z, _, h, _⟩ := hg.ex; ⟨Z, h⟩

theorem good_start (b : St) (hw : WF b) : Good b b.startJournal :=
  ⟨⟨zoneIn b, {}, (map_withZone_zoneIn b hw.ids).symm, rfl, List.nodup_nil, (fun _ hp => nomatch hp), fun _ _ => rfl⟩, rfl, rfl⟩

/-- the step function of `revertJournal`'s fold -/
def revStep (acc : St × Option Err) (p : String × Mask) : St × Option Err :=
  match acc.2 with
  | some _ => acc
  | none =>
    match acc.1.req? p.1 with
    | none => (acc.1, some .internal)
    | some r =>
      if r.zone == 0 then (acc.1, some .internal) else
      let s := acc.1.zoneRemove r.zone p.1
      (if p.2 ≠ 0 then s.zoneAssign p.2 p.1 else s, none)

theorem revertJournal_eq (s : St) (drop : Option String) (j : Journal) (hj : s.journal = some j) :
    s.revertJournal drop =
      (let r := j.reverts.foldl revStep ({ s with journal := none }, none)
       match r.2 with
       | some e => (r.1, [], some e)
       | none =>
         let s := match drop with
           | some id => { r.1 with reqs := r.1.reqs.filter (·.id != id) }
           | none => r.1
         (s, j.updates, none)) := by
  unfold St.revertJournal
  simp only [hj]
  rfl

theorem zoneAssign_frame (s : St) (z : Mask) (id : String) :
    (s.zoneAssign z id).nodes = s.nodes ∧ (s.zoneAssign z id).version = s.version ∧ ∀ x ∈ s.entries, x ∈ (s.zoneAssign z id).entries := by
  refine ⟨rfl, rfl, fun x hx => ?_⟩
  rw [zoneAssign_eq]; dsimp only
  split
  · exact hx
  · exact List.mem_append_left _ hx

theorem revStep_frame (acc : St × Option Err) (p : String × Mask) :
    (revStep acc p).1.nodes = acc.1.nodes ∧ (revStep acc p).1.version = acc.1.version ∧
    ∀ z ∈ acc.1.entries, z ∈ (revStep acc p).1.entries := by
  have hrefl : acc.1.nodes = acc.1.nodes ∧ acc.1.version = acc.1.version ∧ ∀ z ∈ acc.1.entries, z ∈ acc.1.entries :=
    ⟨rfl, rfl, fun _ h => h⟩
  -- `cases` on what `revStep` looks at, not `split` on its `match`es, which is slow here
  unfold revStep
  cases acc.2 with
  | some _ => exact hrefl
  | none =>
    dsimp only
    cases hr : acc.1.req? p.1 with
    | none => exact hrefl
    | some r =>
      dsimp only
      by_cases hz : r.zone = 0
      · rw [if_pos (by simpa using hz)]; exact hrefl
      · rw [if_neg (by simpa using hz), zoneRemove_eq hr hz]
        dsimp only
        split
        · exact zoneAssign_frame _ _ _
        · exact hrefl

theorem revertJournal_frame (s : St) (drop : Option String) :
    (s.revertJournal drop).1.nodes = s.nodes ∧ (s.revertJournal drop).1.version = s.version ∧
    ∀ z ∈ s.entries, z ∈ (s.revertJournal drop).1.entries := by
  cases hj : s.journal with
  | none => simp [St.revertJournal, hj]
  | some j =>
    rw [revertJournal_eq s drop j hj]
    have := List.foldlRecOn (motive := fun acc => acc.1.nodes = s.nodes ∧ acc.1.version = s.version ∧ ∀ z ∈ s.entries, z ∈ acc.1.entries)
      j.reverts revStep (b := ({ s with journal := none }, none)) ⟨rfl, rfl, fun _ h => h⟩ fun a h x _ =>
        ⟨(revStep_frame a x).1.trans h.1, (revStep_frame a x).2.1.trans h.2.1, fun z hz => (revStep_frame a x).2.2 z (h.2.2 z hz)⟩
    dsimp only
    split
    · exact this
    · cases drop <;> exact this

theorem revStep_ok {s : St} {p : String × Mask} {r : Req} (h : s.req? p.1 = some r) (hz : r.zone ≠ 0) (hj : s.journal = none) :
    (revStep (s, none) p).2 = none ∧ (revStep (s, none) p).1.reqs = s.reqs.map (setz p.1 p.2) ∧
    (revStep (s, none) p).1.journal = none := by
  unfold revStep
  simp only [h, beq_iff_eq, hz, if_false, zoneRemove_eq h hz, zoneAssign_eq, hj, Option.map_none]
  by_cases hp : p.2 = 0
  · simp [hp]
  · simp only [ne_eq, hp, not_false_eq_true, if_true, List.map_map, and_true, true_and]
    exact List.map_congr_left fun q _ => setz_setz p.1 0 p.2 q

theorem revFold (b : St) :
    ∀ (l : List (String × Mask)) (s : St) (Z : String → Mask),
      s.reqs = b.reqs.map (withZone Z) → s.journal = none →
      (l.map (·.1)).Nodup →
      (∀ p ∈ l, (∃ r ∈ b.reqs, r.id = p.1) ∧ p.2 = zoneIn b p.1 ∧ Z p.1 ≠ 0) →
      (∀ id, id ∉ l.map (·.1) → Z id = zoneIn b id) →
      (l.foldl revStep (s, none)).2 = none ∧
      (l.foldl revStep (s, none)).1.reqs = b.reqs.map (withZone (zoneIn b)) ∧
      (l.foldl revStep (s, none)).1.journal = none := by
  intro l
  induction l with
  | nil =>
    intro s Z hreqs hj _ _ hfree
    refine ⟨rfl, ?_, hj⟩
    rw [List.foldl_nil, hreqs]
    exact List.map_congr_left fun r _ => by rw [withZone, withZone, hfree r.id (by simp)]
  | cons p rest ih =>
    intro s Z hreqs hj hnd hrev hfree
    rw [List.map_cons, List.nodup_cons] at hnd
    obtain ⟨⟨rb, hrbm, hrbid⟩, hp2, hZp⟩ := hrev p List.mem_cons_self
    -- the request is present with a non-zero zone
    obtain ⟨q, hq, hqz⟩ : ∃ q, s.req? p.1 = some q ∧ q.zone = Z p.1 := by
      rw [req?_of_map hreqs]
      cases hb : b.req? p.1 with
      | none => exact absurd (hrbid ▸ List.mem_map_of_mem hrbm) ((req?_eq_none_iff b p.1).1 hb)
      | some q => exact ⟨_, rfl, by rw [← (req?_some hb).2]; rfl⟩
    obtain ⟨a1, a2, a3⟩ := revStep_ok hq (hqz ▸ hZp) hj
    rw [List.foldl_cons, show revStep (s, none) p = ((revStep (s, none) p).1, none) from Prod.ext rfl a1]
    exact ih _ (fun i => if i == p.1 then p.2 else Z i) (by rw [a2, hreqs, map_setz_withZone]) a3 hnd.2
      (fun q' hq' => by
        obtain ⟨h1, h2, h3⟩ := hrev q' (List.mem_cons_of_mem _ hq')
        have : q'.1 ≠ p.1 := fun e => hnd.1 (e ▸ List.mem_map_of_mem hq')
        exact ⟨h1, h2, by simpa [this] using h3⟩)
      (fun i hi => by
        by_cases e : i = p.1
        · simp [e, hp2]
        · simpa [e] using hfree i (by simpa [e] using hi))

/-- the update map of the open journal (`[]` outside a transaction) -/
def St.updates (s : St) : List (String × Mask) := (s.journal.map (·.updates)).getD []

theorem updates_of_journal {s : St} {j : Journal} (h : s.journal = some j) : s.updates = j.updates := by
  unfold St.updates; rw [h]; rfl

/-- From any state reachable inside a journaled section (`Good b s`),
`revertJournal` succeeds, hands out the journal's update map and restores every request exactly
as it was in `b` (minus the request `drop`, the new request of a failed or offered allocation). -/
theorem revert_spec (b s : St) (hg : Good b s) (hnd : IdsNodup b) (drop : Option String) :
    (s.revertJournal drop).2 = (s.updates, none) ∧
      (s.revertJournal drop).1.reqs = (match drop with | some id => b.reqs.filter (·.id != id) | none => b.reqs) ∧
      (s.revertJournal drop).1.journal = none := by
  obtain ⟨⟨Z, j, hreqs, hj, hnd', hrev, hfree⟩, -, -⟩ := hg
  obtain ⟨a1, a2, a3⟩ := revFold b j.reverts { s with journal := none } Z hreqs rfl hnd' hrev hfree
  rw [map_withZone_zoneIn b hnd] at a2
  rw [revertJournal_eq s drop j hj, updates_of_journal hj]
  simp only [a1]
  cases drop <;> exact ⟨trivial, by simp [a2], a3⟩

theorem revert_restores (b s : St) (hg : Good b s) (hnd : (b.reqs.map (·.id)).Nodup) :
    (s.revertJournal none).2.2 = none ∧
    (s.revertJournal none).1.reqs = b.reqs ∧
    (s.revertJournal none).1.journal = none ∧
    (s.revertJournal none).1.version = b.version ∧
    (s.revertJournal none).1.nodes = b.nodes := by
  obtain ⟨h1, h2, h3⟩ := revert_spec b s hg hnd none
  obtain ⟨f1, f2, -⟩ := revertJournal_frame s none
  exact ⟨by rw [h1], h2, h3, f2.trans hg.version, f1.trans hg.nodes⟩

end Nri.LibMem
