import Nri.Model.K8sRes
import Nri.Proofs.Logic
/-! The four CPU conversions of `pkg/kubernetes/resources.go` in closed form, and their round
trips (C20). Core Lean only.  Clamps and rounding are handled on variables by core lemmas and the
constants put in last: `omega` pays for every call, and dearly for literals like 262144. -/
namespace Nri.K8s

theorem clamp_ite {lo hi : Nat} (h : lo ≤ hi) (x : Nat) :
    (if x < lo then lo else if x > hi then hi else x) = min (max lo x) hi := by
  split
  · rw [Nat.max_eq_left (Nat.le_of_lt ‹_›), Nat.min_eq_left h]
  · rw [Nat.max_eq_right (Nat.le_of_not_lt ‹_›)]
    split
    · exact (Nat.min_eq_right (Nat.le_of_lt ‹_›)).symm
    · exact (Nat.min_eq_left (Nat.le_of_not_lt ‹_›)).symm

/-- Go's `int64(float64(a)/float64(b) + 0.5)` as modelled, `(2a + b')/(2b')`: used with `b' = b = 2c`. -/
theorem half_up (a c b : Nat) : (2 * a + 2 * c) / (2 * b) = (a + c) / b := by
  rw [← Nat.mul_add, Nat.mul_div_mul_left _ _ (by decide : 0 < 2)]

theorem milliCPUToShares_eq_clamp (m : Nat) :
    milliCPUToShares m = min (max 2 (m * 1024 / 1000)) 262144 := by
  unfold milliCPUToShares
  split
  · subst m; rfl
  · exact clamp_ite (by decide) _

theorem two_le_milliCPUToShares (m : Nat) : 2 ≤ milliCPUToShares m := by
  rw [milliCPUToShares_eq_clamp]; exact Nat.le_min.2 ⟨Nat.le_max_left .., by decide⟩

theorem milliCPUToShares_mono {m n : Nat} (h : m ≤ n) : milliCPUToShares m ≤ milliCPUToShares n := by
  rw [milliCPUToShares_eq_clamp, milliCPUToShares_eq_clamp]
  exact min_le_min_right _ (max_le_max_left _ (Nat.div_le_div_right (Nat.mul_le_mul_right 1024 h)))

/-- by monotonicity, from `milliCPUToShares 2 = 2` and `milliCPUToShares 3 = 3` (evaluated) -/
theorem milliCPUToShares_eq_two_iff (m : Nat) : milliCPUToShares m = 2 ↔ m ≤ 2 :=
  ⟨fun h2 => Nat.le_of_not_lt fun h3 => absurd (h2 ▸ milliCPUToShares_mono h3) (by decide),
   fun h => Nat.le_antisymm (milliCPUToShares_mono h) (two_le_milliCPUToShares m)⟩

/-- The minimum of 2 shares is read as "no request". -/
theorem sharesToMilliCPU_two : sharesToMilliCPU 2 = 0 := rfl

theorem sharesToMilliCPU_of_ne_two {s : Nat} (h : s ≠ 2) :
    sharesToMilliCPU s = (s * 1000 + 512) / 1024 := by
  rw [sharesToMilliCPU, if_neg h]; exact half_up (s * 1000) 512 1024

/-- Between the clamps the round trip is known exactly: `⌊m·1.024⌋` drops the fraction
`r/1000`, `r = m·1024 mod 1000`, and rounding `(m·1024 - r)/1024` to the nearest integer gives
`m` back iff `r ≤ 512`, else `m - 1`. It never reads back larger. -/
theorem shares_roundtrip_eq (m : Nat) (h3 : 3 ≤ m) (h : m ≤ 256000) :
    sharesToMilliCPU (milliCPUToShares m) = if m * 1024 % 1000 ≤ 512 then m else m - 1 := by
  -- no clamp applies: `2 ≤ 3·1024/1000` and `256000·1024/1000 = 262144`
  have e : milliCPUToShares m = m * 1024 / 1000 := by
    rw [milliCPUToShares_eq_clamp,
      Nat.max_eq_right (Nat.le_trans (by decide : 2 ≤ 3 * 1024 / 1000)
        (Nat.div_le_div_right (Nat.mul_le_mul_right 1024 h3))),
      Nat.min_eq_left (Nat.le_trans (Nat.div_le_div_right (Nat.mul_le_mul_right 1024 h)) (by decide))]
  rw [sharesToMilliCPU_of_ne_two (mt (milliCPUToShares_eq_two_iff m).1 (Nat.not_le.2 h3)), e]
  split <;> omega

/-- `MilliCPUToQuota` for a nonzero request: `m·100000/1000 = m·100` µs per 100 ms period,
at least 1000 µs, the quota of 10 mCPU. -/
theorem milliCPUToQuota_of_ne_zero {m : Nat} (h : m ≠ 0) :
    milliCPUToQuota m = (max 10 m * 100, 100000) := by
  have e : m * 100000 / 1000 = m * 100 := Nat.mul_div_assoc m ⟨100, rfl⟩
  rw [milliCPUToQuota, if_neg h, e]
  split
  · rw [Nat.max_eq_left (Nat.le_of_lt (Nat.lt_of_mul_lt_mul_right ‹m * 100 < 10 * 100›))]
  · rw [Nat.max_eq_right (Nat.le_of_mul_le_mul_right (Nat.le_of_not_lt ‹¬m * 100 < 10 * 100›) (by decide))]

/-- At the period `MilliCPUToQuota` writes, `QuotaToMilliCPU` rounds `q/100` half up
(also at `q = 0`). -/
theorem quotaToMilliCPU_period (q : Nat) : quotaToMilliCPU q 100000 = (q + 50) / 100 := by
  unfold quotaToMilliCPU
  split
  · next h => rw [h.resolve_right (by decide)]
  · rw [← Nat.mul_div_mul_right (q + 50) 100 (by decide : 0 < 1000), Nat.add_mul]
    exact half_up (q * 1000) 50000 100000

/-- The quota round trip for every request: the 1000 µs floor turns 1..9 mCPU into 10. -/
theorem quota_roundtrip_eq (m : Nat) :
    quotaToMilliCPU (milliCPUToQuota m).1 (milliCPUToQuota m).2 = if m = 0 then 0 else max 10 m := by
  split
  · subst m; rfl
  · next h =>
    rw [milliCPUToQuota_of_ne_zero h, quotaToMilliCPU_period, Nat.mul_comm, Nat.mul_add_div (by decide)]
    rfl

end Nri.K8s
