import Nri.Model.K8sRes
/-! Helper lemmas for the OOM-adjustment table (C20). Core Lean only.

The adjustment `1000 - ⌊1000·r/cap⌋` falls as the request grows, and `smallestReq cap i = ⌈i·cap/1000⌉`
is where it reaches `1000 - i`: the requests with that adjustment are the interval
`[smallestReq cap i, smallestReq cap (i+1))` (`adj_eq_iff`). The two search loops are specified for an
arbitrary run of equal adjustments; `oomStep_found` puts the two together. -/
namespace Nri.K8s

/-- `smallestReq cap i` is `i·cap/1000` rounded up. -/
theorem smallestReq_le_iff {cap i r : Nat} : smallestReq cap i ≤ r ↔ i * cap ≤ 1000 * r := by
  unfold smallestReq
  rw [Nat.div_le_iff_le_mul_add_pred (by decide)]
  exact Nat.add_le_add_iff_right

theorem smallestReq_succ (cap i : Nat) :
    smallestReq cap i + cap / 1000 ≤ smallestReq cap (i + 1) ∧
    smallestReq cap (i + 1) ≤ smallestReq cap i + cap / 1000 + 1 := by
  unfold smallestReq; rw [Nat.succ_mul]; omega

theorem smallestReq_lt_succ (cap i : Nat) (hc : 1000 ≤ cap) :
    smallestReq cap i < smallestReq cap (i + 1) :=
  Nat.lt_of_lt_of_le (Nat.lt_add_of_pos_right (Nat.div_pos hc (by decide))) (smallestReq_succ cap i).1

theorem adj_le_iff {cap r k : Nat} (hc : 0 < cap) :
    memReqToOomAdj cap r ≤ 1000 - (k : Int) ↔ k * cap ≤ 1000 * r := by
  unfold memReqToOomAdj
  rw [← Nat.le_div_iff_mul_le hc]; omega

theorem adj_le_of_ge {cap r k : Nat} (hc : 0 < cap) (h1 : k * cap ≤ 1000 * r) :
    memReqToOomAdj cap r ≤ 1000 - (k : Int) :=
  (adj_le_iff hc).2 h1

theorem adj_gt_of_lt {cap r k : Nat} (hc : 0 < cap) (h2 : 1000 * r < k * cap) :
    1000 - (k : Int) < memReqToOomAdj cap r :=
  Int.not_le.1 (mt (adj_le_iff hc).1 (Nat.not_le.2 h2))

theorem adj_eq_iff {cap r i : Nat} (hc : 0 < cap) :
    memReqToOomAdj cap r = 1000 - (i : Int) ↔
      smallestReq cap i ≤ r ∧ r < smallestReq cap (i + 1) := by
  -- both sides say: the adjustment is `≤ 1000 - i` and not `≤ 1000 - (i+1)`
  rw [← Nat.not_le, smallestReq_le_iff, smallestReq_le_iff, ← adj_le_iff hc, ← adj_le_iff hc]
  omega

theorem adj_smallestReq (cap i : Nat) (hc : 1000 ≤ cap) :
    memReqToOomAdj cap (smallestReq cap i) = 1000 - (i : Int) :=
  (adj_eq_iff (Nat.lt_of_lt_of_le (by decide) hc)).2 ⟨Nat.le_refl _, smallestReq_lt_succ cap i hc⟩

theorem exactEst_bounds (cap prev : Nat) :
    prev + cap / 1000 ≤ exactEst cap prev ∧ exactEst cap prev ≤ prev + cap / 1000 + 1 := by
  unfold exactEst; omega

/-- `[lo, cur]` is a run of requests with adjustment `prevAdj - 1` and `lo - 1` is no longer below
`prevAdj`: `lo` is recorded, within `cur - lo + 2` iterations. -/
theorem descend_spec (cap : Nat) (prevAdj : Int) (lo : Nat) (hlo : 1 ≤ lo)
    (hstop : ¬ memReqToOomAdj cap (lo - 1) < prevAdj) :
    ∀ (fuel cur : Nat) (rec : Option Nat), lo ≤ cur → cur + 2 ≤ lo + fuel →
      (∀ r, lo ≤ r → r ≤ cur → memReqToOomAdj cap r = prevAdj - 1) →
      descend cap prevAdj fuel cur rec = some lo := by
  intro fuel
  induction fuel with
  | zero => intro cur _ h1 h2; exact (Nat.not_succ_le_self cur (Nat.le_of_succ_le (Nat.le_trans h2 h1))).elim
  | succ f ih =>
    intro cur rec h1 h2 hrun
    obtain ⟨c, rfl⟩ := Nat.exists_eq_add_one_of_ne_zero (Nat.ne_of_gt (Nat.lt_of_lt_of_le hlo h1))
    have hlt : prevAdj - 1 < prevAdj := Int.sub_lt_self _ (by decide)
    simp only [descend, hrun _ h1 (Nat.le_refl _), hlt, if_true]
    by_cases hc : lo ≤ c
    · exact ih c _ hc (Nat.le_of_succ_le_succ h2) (fun r a b => hrun r a (Nat.le_succ_of_le b))
    · -- `c + 1 = lo`: one more iteration sees `lo - 1` and stops
      obtain rfl : lo = c + 1 := Nat.le_antisymm h1 (Nat.lt_of_not_le hc)
      obtain ⟨g, rfl⟩ := Nat.exists_eq_add_one_of_ne_zero fun f0 : f = 0 => by
        subst f0; exact Nat.not_succ_le_self _ h2
      rw [Nat.add_sub_cancel] at hstop
      simp only [descend, if_neg hstop]

/-- `[cur, hi)` is a run of requests with adjustment `prevAdj`, `hi` has another one. -/
theorem ascend_spec (cap : Nat) (prevAdj : Int) (hi : Nat)
    (hstop : memReqToOomAdj cap hi ≠ prevAdj) :
    ∀ (fuel cur : Nat), cur ≤ hi → hi ≤ cur + fuel →
      (∀ r, cur ≤ r → r < hi → memReqToOomAdj cap r = prevAdj) →
      ascend cap prevAdj fuel cur = hi := by
  intro fuel
  induction fuel with
  | zero => intro cur h1 h2 _; exact Nat.le_antisymm h1 h2
  | succ f ih =>
    intro cur h1 h2 hrun
    by_cases hc : cur = hi
    · simp only [ascend, hc, if_neg hstop]
    · have hlt := Nat.lt_of_le_of_ne h1 hc
      simp only [ascend, hrun cur (Nat.le_refl _) hlt, if_true]
      exact ih (cur + 1) hlt (Nat.add_right_comm cur f 1 ▸ h2) (fun r a b => hrun r (Nat.le_of_succ_le a) b)

/-- One iteration of the table construction, started from the correct previous entry and
any estimate `est` inside the two adjacent buckets, with enough fuel to walk to the bucket
boundary, finds exactly the closed-form entry and does not panic. -/
theorem oomStep_found (cap j est fuel : Nat) (hc : 1000 ≤ cap)
    (hlo : smallestReq cap j ≤ est) (hhi : est < smallestReq cap (j + 1 + 1))
    (hf1 : est + 2 ≤ smallestReq cap (j + 1) + fuel) (hf2 : smallestReq cap (j + 1) ≤ est + fuel) :
    oomStep cap fuel (smallestReq cap j) est = .found (smallestReq cap (j + 1)) := by
  have hcpos : 0 < cap := Nat.lt_of_lt_of_le (by decide) hc
  have h01 := smallestReq_lt_succ cap j hc
  have h12 := smallestReq_lt_succ cap (j + 1) hc
  have bucket0 : ∀ {r}, smallestReq cap j ≤ r → r < smallestReq cap (j + 1) →
      memReqToOomAdj cap r = 1000 - (j : Int) := fun h1 h2 => (adj_eq_iff hcpos).2 ⟨h1, h2⟩
  have bucket1 : ∀ {r}, smallestReq cap (j + 1) ≤ r → r < smallestReq cap (j + 1 + 1) →
      memReqToOomAdj cap r = 1000 - (j : Int) - 1 := fun h1 h2 => by
    rw [(adj_eq_iff hcpos).2 ⟨h1, h2⟩]; omega
  have hdown : (1000 : Int) - j - 1 < 1000 - j := Int.sub_lt_self _ (by decide)
  have hpos : 0 < smallestReq cap (j + 1) := Nat.lt_of_le_of_lt (Nat.zero_le _) h01
  unfold oomStep
  simp only [bucket0 (Nat.le_refl _) h01]
  by_cases hge : smallestReq cap (j + 1) ≤ est
  · -- the estimate is in the next bucket: walk down to its first element
    rw [if_pos (by rw [bucket1 hge hhi]; exact hdown),
      descend_spec cap _ (smallestReq cap (j + 1)) hpos
        (by rw [bucket0 (Nat.le_sub_one_of_lt h01) (Nat.sub_one_lt (Nat.ne_of_gt hpos))]; exact Int.lt_irrefl _)
        fuel est none hge hf1 (fun r h1 h2 => bucket1 h1 (Nat.lt_of_le_of_lt h2 hhi))]
  · -- the estimate is still in the previous bucket: walk up to the first element of the next
    have hlt : est < smallestReq cap (j + 1) := Nat.lt_of_not_le hge
    rw [if_neg (by rw [bucket0 hlo hlt]; exact Int.lt_irrefl _), if_pos (bucket0 hlo hlt),
      ascend_spec cap _ (smallestReq cap (j + 1)) (by rw [bucket1 (Nat.le_refl _) h12]; exact Int.ne_of_lt hdown)
        fuel est (Nat.le_of_lt hlt) hf2 (fun r h1 h2 => bucket0 (Nat.le_trans hlo h1) h2),
      if_pos (bucket1 (Nat.le_refl _) h12)]

end Nri.K8s
