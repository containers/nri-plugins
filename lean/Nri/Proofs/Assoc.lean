import Nri.Proofs.Logic
/-!
Association lists keyed by strings, as two models write them (`alGet`/`alSet` of libmem's journal,
`aget`/`aset` of the annotation maps): lookup of the first entry with the key, update in place or
append.  The two models define their pair separately, with the bodies of `Assoc.get`/`Assoc.set` at masks
and at strings; each fact is proved here once, and the models' lemmas (`alGet_alSet`, `aget_aset`, ...)
are stated for the models' functions and hold by the generic lemma up to unfolding.  Core Lean only.
-/
namespace Nri.Assoc
variable {β : Type}

def get (l : List (String × β)) (k : String) : Option β := (l.find? (·.1 == k)).map (·.2)

def set (l : List (String × β)) (k : String) (v : β) : List (String × β) :=
  if l.any (·.1 == k) then l.map (fun p => if p.1 == k then (k, v) else p) else l ++ [(k, v)]

theorem get_cons (p : String × β) (l : List (String × β)) (k : String) :
    get (p :: l) k = if p.1 = k then some p.2 else get l k := by
  unfold get
  by_cases h : p.1 = k
  · rw [List.find?_cons_of_pos (by simpa using h), if_pos h]; rfl
  · rw [List.find?_cons_of_neg (by simpa using h), if_neg h]

theorem get_append (l l' : List (String × β)) (k : String) : get (l ++ l') k = (get l k).or (get l' k) := by
  simp only [get, List.find?_append, Option.map_or]

theorem any_key (l : List (String × β)) (k : String) : l.any (·.1 == k) = (get l k).isSome := by
  rw [get, Option.isSome_map, Bool.eq_iff_iff, List.any_eq_true, List.find?_isSome]

theorem get_isSome_iff (l : List (String × β)) (k : String) : (get l k).isSome = true ↔ k ∈ l.map (·.1) := by
  rw [← any_key, List.any_eq_true, List.mem_map]
  exact exists_congr fun p => and_congr_right fun _ => beq_iff_eq

theorem get_map_set (l : List (String × β)) (k k' : String) (v : β) :
    get (l.map (fun p => if p.1 == k then (k, v) else p)) k' =
      if k' = k then (get l k).map (fun _ => v) else get l k' := by
  induction l with
  | nil => simp [get]
  | cons p l ih =>
    rw [List.map_cons, get_cons, ih, get_cons, get_cons]
    by_cases hk : k' = k
    · subst hk; by_cases hp : p.1 = k' <;> simp [hp]
    · by_cases hp : p.1 = k <;> simp [hp, hk, Ne.symm hk]

theorem get_set (l : List (String × β)) (k k' : String) (v : β) :
    get (set l k v) k' = if k' = k then some v else get l k' := by
  unfold set
  rw [any_key]
  split
  · rename_i h
    obtain ⟨z, hz⟩ := Option.isSome_iff_exists.1 h
    rw [get_map_set, hz]; rfl
  · rename_i h
    rw [get_append, get_cons]
    by_cases e : k' = k
    · subst e; simp [Option.not_isSome_iff_eq_none.1 h]
    · simp [e, Ne.symm e, get]

theorem set_keys_nodup (l : List (String × β)) (k : String) (v : β) (h : (l.map (·.1)).Nodup) :
    ((set l k v).map (·.1)).Nodup := by
  unfold set
  rw [any_key]
  split
  · have : (l.map (fun p => if p.1 == k then (k, v) else p)).map (·.1) = l.map (·.1) := by
      rw [List.map_map]
      exact List.map_congr_left fun p _ => by by_cases e : p.1 = k <;> simp [e]
    rw [this]; exact h
  · rename_i hk
    rw [get_isSome_iff] at hk
    rw [List.map_append]
    exact nodup_concat h hk

end Nri.Assoc
