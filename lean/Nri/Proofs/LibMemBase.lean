import Nri.Model.LibMem
import Nri.Proofs.Assoc
/-!
Ground facts of the libmem model used by every proof module: `msub` as the subset order on node
masks, the assoc-list operations, lookup in a request list with unique ids, and what the
primitive zone operations (`zoneAssign`, `zoneRemove`, `zoneMove`) do to each field of the state.  Core Lean only.
-/
namespace Nri.LibMem

theorem msub_iff (a b : Mask) : msub a b = true ↔ ∀ i, a.testBit i = true → b.testBit i = true := by
  unfold msub
  simp only [beq_iff_eq]
  constructor
  · intro h i ha
    have := congrArg (fun x => x.testBit i) h
    simpa [ha] using this
  · intro h
    apply Nat.eq_of_testBit_eq
    intro i
    cases ha : a.testBit i <;> simp [ha, h i]

theorem msub_refl (a : Mask) : msub a a = true := (msub_iff a a).2 fun _ h => h
theorem msub_zero (a : Mask) : msub 0 a = true := (msub_iff 0 a).2 fun i h => by simp at h

theorem msub_trans {a b c : Mask} (h1 : msub a b = true) (h2 : msub b c = true) : msub a c = true := by
  rw [msub_iff] at *
  exact fun i h => h2 i (h1 i h)

theorem msub_antisymm {a b : Mask} (h1 : msub a b = true) (h2 : msub b a = true) : a = b :=
  (eq_of_beq h1).symm.trans ((Nat.and_comm a b).trans (eq_of_beq h2))

theorem msub_or_right {a b : Mask} (c : Mask) (h : msub a b = true) : msub a (b ||| c) = true := by
  rw [msub_iff] at *
  intro i ha
  simp [h i ha]

theorem msub_or_self (a c : Mask) : msub a (a ||| c) = true := msub_or_right c (msub_refl a)

theorem msub_or_of (a b c : Mask) (h1 : msub a c = true) (h2 : msub b c = true) : msub (a ||| b) c = true := by
  rw [msub_iff] at *
  intro i h
  rw [Nat.testBit_or, Bool.or_eq_true] at h
  exact h.elim (h1 i) (h2 i)

theorem msub_or_or {a b c d : Mask} (h1 : msub a c = true) (h2 : msub b d = true) : msub (a ||| b) (c ||| d) = true :=
  msub_or_of a b (c ||| d) (msub_or_right d h1) (by rw [Nat.or_comm c d]; exact msub_or_right c h2)

theorem msub_and_left (a b : Mask) : msub (a &&& b) a = true := by
  rw [msub_iff]; intro i h; rw [Nat.testBit_and, Bool.and_eq_true] at h; exact h.1

theorem msub_and_right (a b : Mask) : msub (a &&& b) b = true := by
  rw [msub_iff]; intro i h; rw [Nat.testBit_and, Bool.and_eq_true] at h; exact h.2

theorem and_ne_zero_of_msub {a b m : Mask} (h : msub a b = true) (ha : a &&& m ≠ 0) : b &&& m ≠ 0 := by
  intro hb
  rw [← eq_of_beq h, Nat.and_assoc, hb] at ha
  exact ha (Nat.and_zero a)

theorem and_ne_zero_left {a b : Nat} (h : a &&& b ≠ 0) : a ≠ 0 := by
  intro e; subst e; simp at h

theorem or_ne_zero_right {a b : Nat} (h : b ≠ 0) : a ||| b ≠ 0 :=
  fun e => h (Nat.or_eq_zero_iff.1 e).2

/-! ### assoc lists: `alGet`/`alSet` are `Assoc.get`/`Assoc.set` at masks -/

theorem alGet_cons (p : String × Mask) (l : List (String × Mask)) (k : String) :
    alGet (p :: l) k = if p.1 = k then some p.2 else alGet l k := Assoc.get_cons p l k

theorem alGet_isSome_iff (l : List (String × Mask)) (k : String) :
    (alGet l k).isSome = true ↔ k ∈ l.map (·.1) := Assoc.get_isSome_iff l k

theorem alGet_none_of_not_mem (l : List (String × Mask)) (k : String) (h : k ∉ l.map (·.1)) : alGet l k = none :=
  Option.not_isSome_iff_eq_none.1 (mt (alGet_isSome_iff l k).1 h)

theorem alGet_append (l l' : List (String × Mask)) (k : String) :
    alGet (l ++ l') k = (alGet l k).or (alGet l' k) := Assoc.get_append l l' k

theorem alGet_alSet (l : List (String × Mask)) (k k' : String) (v : Mask) :
    alGet (alSet l k v) k' = if k' = k then some v else alGet l k' := Assoc.get_set l k k' v

theorem alSet_keys_nodup (l : List (String × Mask)) (k : String) (v : Mask) (h : (l.map (·.1)).Nodup) :
    ((alSet l k v).map (·.1)).Nodup := Assoc.set_keys_nodup l k v h

theorem alGet_alErase (l : List (String × Mask)) (k k' : String) :
    alGet (alErase l k) k' = if k' = k then none else alGet l k' := by
  rw [alGet, alErase, List.find?_filter]
  split
  · next e => rw [List.find?_eq_none.2 fun p _ => by simp [e]]; rfl
  · next e =>
    -- an entry with the key `k'` is not one with the key `k`
    have : (fun a : String × Mask => decide ((a.1 != k) = true ∧ (a.1 == k') = true)) = (·.1 == k') :=
      funext fun a => by by_cases h : a.1 = k' <;> simp [h, e]
    rw [this]; rfl

def IdsNodup (s : St) : Prop := (s.reqs.map (·.id)).Nodup

/-- the zone of request `id` in `s`; `0` for an unassigned and for an unknown request alike, which is what
lets the state with the new request appended unassigned be the base state of `allocate`'s transaction
(`zoneIn_withNew`) -/
def zoneIn (s : St) (id : String) : Mask := ((s.req? id).map (·.zone)).getD 0

theorem req?_some {s : St} {id : String} {r : Req} (h : s.req? id = some r) : r ∈ s.reqs ∧ r.id = id :=
  ⟨List.mem_of_find?_eq_some h, by simpa using List.find?_some h⟩

theorem req?_eq_none_iff (s : St) (id : String) : s.req? id = none ↔ id ∉ s.reqs.map (·.id) := by
  unfold St.req?
  rw [List.find?_eq_none, List.mem_map]
  exact ⟨fun h ⟨r, hr, e⟩ => by simpa [e] using h r hr, fun h r hr e => h ⟨r, hr, by simpa using e⟩⟩

theorem req?_congr {s t : St} (h : s.reqs = t.reqs) (id : String) : s.req? id = t.req? id := by
  unfold St.req?; rw [h]

theorem req?_of_mem (s : St) (hnd : IdsNodup s) (r : Req) (hr : r ∈ s.reqs) : s.req? r.id = some r :=
  find?_key_of_mem (α := Req) (·.id) hnd hr

theorem eq_of_id_eq (s : St) (hnd : IdsNodup s) {q r : Req} (hq : q ∈ s.reqs) (hr : r ∈ s.reqs) (e : q.id = r.id) : q = r :=
  Option.some.inj ((req?_of_mem s hnd q hq).symm.trans (e ▸ req?_of_mem s hnd r hr))

theorem zoneIn_of_mem (s : St) (hnd : IdsNodup s) (q : Req) (hq : q ∈ s.reqs) : zoneIn s q.id = q.zone := by
  unfold zoneIn; rw [req?_of_mem s hnd q hq]; rfl

theorem zoneIn_none (s : St) (id : String) (h : s.req? id = none) : zoneIn s id = 0 := by
  unfold zoneIn; rw [h]; rfl

/-- what `setZone id z` maps over the request list -/
def setz (id : String) (z : Mask) (q : Req) : Req := if q.id == id then { q with zone := z } else q

@[simp] theorem setz_id (id : String) (z : Mask) (q : Req) : (setz id z q).id = q.id := by unfold setz; split <;> rfl

theorem setz_of_ne {id : String} (z : Mask) {q : Req} (h : q.id ≠ id) : setz id z q = q := by simp [setz, h]

theorem setz_of_eq {id : String} (z : Mask) {q : Req} (h : q.id = id) : setz id z q = { q with zone := z } := by simp [setz, h]

theorem setz_setz (id : String) (z z' : Mask) (q : Req) : setz id z' (setz id z q) = setz id z' q := by
  by_cases h : q.id = id <;> simp [setz, h]

theorem map_setz_ids (l : List Req) (id : String) (z : Mask) : (l.map (setz id z)).map (·.id) = l.map (·.id) := by
  rw [List.map_map]; exact List.map_congr_left fun q _ => setz_id id z q

/-- the journal after moving `id` from `z0` (`0` = unassigned) to `t`: `delete` (if assigned) then `assign` -/
def Journal.move (j : Journal) (z0 t : Mask) (id : String) : Journal :=
  ⟨alSet j.updates id t, if (alGet j.reverts id).isSome then j.reverts else j.reverts ++ [(id, z0)]⟩

theorem Journal.move_eq (j : Journal) (z0 t : Mask) (id : String) :
    (if z0 ≠ 0 then j.delete z0 id else j).assign t id = j.move z0 t id := by
  unfold Journal.move Journal.assign Journal.delete
  by_cases hz : z0 = 0 <;> by_cases hk : (alGet j.reverts id).isSome = true <;>
    simp [hz, hk, alGet_append, alGet_cons]

theorem zoneAssign_eq (s : St) (z : Mask) (id : String) : s.zoneAssign z id =
    { s with entries := if s.entries.contains z then s.entries else s.entries ++ [z],
             reqs := s.reqs.map (setz id z), journal := s.journal.map (·.assign z id) } := rfl

theorem zoneRemove_eq {s : St} {id : String} {r : Req} (h : s.req? id = some r) (hz : r.zone ≠ 0) :
    s.zoneRemove r.zone id = { s with reqs := s.reqs.map (setz id 0), journal := s.journal.map (·.delete r.zone id) } := by
  simp only [St.zoneRemove, h, ne_eq, hz, not_false_eq_true, beq_self_eq_true, and_self, if_true]
  rfl

theorem zoneMove_unknown {s : St} {id : String} (t : Mask) (h : s.req? id = none) : s.zoneMove t id = s := by
  unfold St.zoneMove; simp [h]

theorem zoneMove_same {s : St} {id : String} {r : Req} (h : s.req? id = some r) (hz : r.zone ≠ 0) :
    s.zoneMove r.zone id = s := by
  unfold St.zoneMove; simp [h, hz]

/-- `zoneMove` of `id` from zone `z0` (`0` = unassigned) to a different zone `t` -/
def St.moved (s : St) (z0 t : Mask) (id : String) : St :=
  { s with entries := if s.entries.contains t then s.entries else s.entries ++ [t],
           reqs := s.reqs.map (setz id t), journal := s.journal.map (·.move z0 t id) }

theorem zoneMove_eq {s : St} {id : String} {r : Req} (h : s.req? id = some r) {t : Mask} (hne : ¬(r.zone ≠ 0 ∧ r.zone = t)) :
    s.zoneMove t id = s.moved r.zone t id := by
  unfold St.zoneMove St.moved
  simp only [h]
  by_cases hz : r.zone = 0
  · simp [hz, zoneAssign_eq, ← Journal.move_eq]
  · have hne' : (r.zone == t) = false := by simpa using fun e => hne ⟨hz, e⟩
    simp only [ne_eq, hz, not_false_eq_true, if_true, hne', Bool.false_eq_true, if_false, zoneRemove_eq h hz, zoneAssign_eq,
      List.map_map, Option.map_map, ← Journal.move_eq]
    congr 2
    exact funext fun q => setz_setz id 0 t q

theorem zoneMove_cases (s : St) (t : Mask) (id : String) :
    s.zoneMove t id = s ∨ ∃ r, s.req? id = some r ∧ s.zoneMove t id = s.moved r.zone t id := by
  cases h : s.req? id with
  | none => exact Or.inl (zoneMove_unknown t h)
  | some r =>
    by_cases e : r.zone ≠ 0 ∧ r.zone = t
    · exact Or.inl (e.2 ▸ zoneMove_same h e.1)
    · exact Or.inr ⟨r, rfl, zoneMove_eq h e⟩

theorem zoneMove_nodes (s : St) (t : Mask) (id : String) : (s.zoneMove t id).nodes = s.nodes := by
  rcases zoneMove_cases s t id with e | ⟨_, _, e⟩ <;> rw [e] <;> rfl

theorem zoneMove_version (s : St) (t : Mask) (id : String) : (s.zoneMove t id).version = s.version := by
  rcases zoneMove_cases s t id with e | ⟨_, _, e⟩ <;> rw [e] <;> rfl

theorem zoneMove_ids (s : St) (t : Mask) (id : String) : (s.zoneMove t id).reqs.map (·.id) = s.reqs.map (·.id) := by
  rcases zoneMove_cases s t id with e | ⟨_, _, e⟩ <;> rw [e]
  exact map_setz_ids _ _ _

theorem zoneMove_idsNodup {s : St} (h : IdsNodup s) (t : Mask) (id : String) : IdsNodup (s.zoneMove t id) := by
  unfold IdsNodup; rw [zoneMove_ids]; exact h

theorem zoneMove_journal_none (s : St) (t : Mask) (id : String) (h : s.journal = none) : (s.zoneMove t id).journal = none := by
  rcases zoneMove_cases s t id with e | ⟨_, _, e⟩ <;> rw [e]
  · exact h
  · simp [St.moved, h]

theorem zoneMove_entries_sup (s : St) (t : Mask) (id : String) (z : Mask) (hz : z ∈ s.entries) : z ∈ (s.zoneMove t id).entries := by
  rcases zoneMove_cases s t id with e | ⟨_, _, e⟩ <;> rw [e]
  · exact hz
  · unfold St.moved; dsimp only; split
    · exact hz
    · exact List.mem_append_left _ hz

theorem zoneMove_entries_self {s : St} {id : String} {r : Req} (h : s.req? id = some r) {t : Mask} (hne : r.zone ≠ t) :
    t ∈ (s.zoneMove t id).entries := by
  rw [zoneMove_eq h (fun e => hne e.2)]
  unfold St.moved; dsimp only
  split
  · rename_i hc; simpa using hc
  · simp

theorem zoneMove_reqs (s : St) (hnd : IdsNodup s) (t : Mask) (id : String) : (s.zoneMove t id).reqs = s.reqs.map (setz id t) := by
  have hid : ∀ l : List Req, (∀ q ∈ l, setz id t q = q) → l = l.map (setz id t) := fun l h =>
    ((List.map_congr_left h).trans (List.map_id' l)).symm
  cases h : s.req? id with
  | none =>
    rw [zoneMove_unknown t h]
    exact hid _ fun q hq => setz_of_ne t fun e => (req?_eq_none_iff s id).1 h (e ▸ List.mem_map_of_mem hq)
  | some r =>
    by_cases e : r.zone ≠ 0 ∧ r.zone = t
    · obtain ⟨e1, e2⟩ := e
      subst e2
      rw [zoneMove_same h e1]
      refine hid _ fun q hq => ?_
      by_cases hq' : q.id = id
      · have : q = r := eq_of_id_eq s hnd hq (req?_some h).1 (hq'.trans (req?_some h).2.symm)
        rw [setz_of_eq _ hq', this]
      · exact setz_of_ne _ hq'
    · rw [zoneMove_eq h e]; rfl

theorem mem_zoneMove (s : St) (hnd : IdsNodup s) (r : Req) (hr : r ∈ s.reqs) (t : Mask) (q' : Req) :
    q' ∈ (s.zoneMove t r.id).reqs ↔ (q' ∈ s.reqs ∧ q'.id ≠ r.id) ∨ q' = { r with zone := t } := by
  rw [zoneMove_reqs s hnd, List.mem_map]
  constructor
  · rintro ⟨q, hq, rfl⟩
    by_cases e : q.id = r.id
    · rw [setz_of_eq _ e, eq_of_id_eq s hnd hq hr e]; exact Or.inr rfl
    · rw [setz_of_ne _ e]; exact Or.inl ⟨hq, e⟩
  · rintro (⟨hq, hne⟩ | rfl)
    · exact ⟨q', hq, setz_of_ne _ hne⟩
    · exact ⟨r, hr, setz_of_eq _ rfl⟩

theorem forall_mem_zoneMove {s : St} (hnd : IdsNodup s) {r : Req} (hr : r ∈ s.reqs) (t : Mask) {φ : Req → Prop}
    (ho : ∀ q ∈ s.reqs, q.id ≠ r.id → φ q) (hn : φ { r with zone := t }) : ∀ q ∈ (s.zoneMove t r.id).reqs, φ q :=
  fun q hq => ((mem_zoneMove s hnd r hr t q).1 hq).elim (fun h => ho q h.1 h.2) (fun e => e ▸ hn)

end Nri.LibMem
