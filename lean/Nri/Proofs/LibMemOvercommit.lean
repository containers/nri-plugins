import Nri.Proofs.LibMemBase
/-!
The overcommit machinery (`handleOvercommit` and the loops below it) seen from outside:

* `handleOvercommit_pres`, the preservation combinator: a predicate on allocator states that is
  closed under the one primitive the machinery applies - `zoneMove` of a current user of a zone
  that touches the handled nodes to that zone extended by some nodes (`MoveOK` collects what is known
  about such a move; that the zone is overcommitted is not among it) - is preserved by the whole resolution.  Every libmem invariant is carried through
  `handleOvercommit` by one `hmove` lemma.
* `handleOvercommit_ok_fits`: success means the final `checkOvercommit` found nothing.
Core Lean only.
-/
namespace Nri.LibMem

theorem insertBy_perm {α} (lt : α → α → Bool) (x : α) : ∀ l : List α, (insertBy lt x l).Perm (x :: l) := by
  intro l
  induction l with
  | nil => exact List.Perm.refl _
  | cons y ys ih =>
    unfold insertBy
    split
    · exact List.Perm.refl _
    · exact ((List.Perm.cons y ih).trans (List.Perm.swap x y ys))

theorem sortBy_perm {α} (lt : α → α → Bool) (l : List α) : (sortBy lt l).Perm l := by
  unfold sortBy
  suffices h : ∀ (l acc : List α), (l.foldl (fun acc x => insertBy lt x acc) acc).Perm (l.reverse ++ acc) by
    have := h l []
    simp only [List.append_nil] at this
    exact this.trans (List.reverse_perm l)
  intro l
  induction l with
  | nil => intro acc; exact List.Perm.refl _
  | cons x xs ih =>
    intro acc
    simp only [List.foldl_cons, List.reverse_cons, List.append_assoc, List.singleton_append]
    exact (ih _).trans (List.Perm.append_left _ (insertBy_perm lt x acc))

theorem mem_sortBy {α} (lt : α → α → Bool) (l : List α) (x : α) : x ∈ sortBy lt l ↔ x ∈ l :=
  (sortBy_perm lt l).mem_iff

def touches (nodes0 z : Mask) : Prop := nodes0 = 0 ∨ z &&& nodes0 ≠ 0

/-- the facts available about one move of the overcommit machinery -/
structure MoveOK (s : St) (nodes0 : Mask) (r : Req) (nodes : Mask) : Prop where
  ids : IdsNodup s
  mem : r ∈ s.reqs
  zone : r.zone ≠ 0
  new : nodes ≠ 0
  prio : r.prio ≤ 32766     -- `Preserved`, the highest priority below `Reservation` = 32767 (request.go:52-53)
  touch : touches nodes0 r.zone
  /-- `nodes` is what `expand` returned for the request's zone (on a state with the same node
  table), together with the types `ty` of those nodes; a strict request is only moved when its
  types are exactly the zone's types plus `ty` -/
  strictOk : ∃ (s0 : St) (extra ty : Nat), s0.nodes = s.nodes ∧
    s0.expand r.zone (s0.zoneType r.zone ||| extra) = (nodes, ty) ∧
    (r.strict = true → r.types = s0.zoneType r.zone ||| ty)

theorem checkOvercommit_touch (nodes0 : Mask) (s : St) : ∀ z ∈ s.checkOvercommit nodes0, touches nodes0 z.1 := by
  intro z hz
  unfold St.checkOvercommit at hz
  obtain ⟨z0, hz0, e⟩ := List.mem_map.1 hz
  rw [mem_sortBy, mem_sortBy] at hz0
  obtain ⟨_, hf⟩ := List.mem_filter.1 hz0
  subst e
  simp only [Bool.and_eq_true, Bool.or_eq_true, beq_iff_eq, decide_eq_true_eq] at hf
  exact hf.1

theorem resolveOvercommit_succ (s : St) (nodes : Mask) (fuel : Nat) (oc : List (Mask × Int)) :
    s.resolveOvercommit nodes (fuel + 1) oc =
      if (s.ocPass nodes oc).2.2.2 then ((s.ocPass nodes oc).1, none)
      else if (s.ocPass nodes oc).2.2.1 == 0 then ((s.ocPass nodes oc).1, some .noMem)
      else (s.ocPass nodes oc).1.resolveOvercommit nodes fuel (s.ocPass nodes oc).2.1 := by
  rw [St.resolveOvercommit]

section Combinator
/- `Q` is the predicate to carry through; it implies that ids are unique, which is what keeps the
users of a zone that are still to be moved in the request list while the others are moved. -/
variable (nodes0 : Mask) (Q : St → Prop)
variable (hids : ∀ s, Q s → IdsNodup s)
variable (hamb : ∀ s x, Q s → Q { s with ambig := x })
variable (hmove : ∀ s r nodes, Q s → MoveOK s nodes0 r nodes → Q (s.zoneMove (r.zone ||| nodes) r.id))
include hids hamb hmove

omit hamb in
theorem shrinkGo_pres (zone nodes : Mask) (hn : nodes ≠ 0) (ht : touches nodes0 zone) (amount : Int) (ty : Nat)
    (s0 : St) (extra : Nat) (hexp : s0.expand zone (s0.zoneType zone ||| extra) = (nodes, ty)) :
    ∀ (l : List Req) (s : St) (moved : Int), Q s → s.nodes = s0.nodes →
      (∀ r ∈ l, r ∈ s.reqs ∧ r.zone ≠ 0 ∧ r.zone = zone ∧ r.prio ≤ 32766) → (l.map (·.id)).Nodup →
      Q (St.zoneShrinkUsage.go zone amount (s0.zoneType zone) nodes ty s moved l).1 := by
  intro l
  induction l with
  | nil => intro s moved hq _ _ _; simpa [St.zoneShrinkUsage.go] using hq
  | cons r rs ih =>
    intro s moved hq hnodes hl hln
    obtain ⟨hrm, hrz, hrzone, hrp⟩ := hl r (List.mem_cons_self)
    rw [List.map_cons, List.nodup_cons] at hln
    -- the users still to come are distinct from `r`, so moving `r` leaves them in the list
    have hrest : ∀ r' ∈ rs, r' ∈ (s.zoneMove (zone ||| nodes) r.id).reqs ∧ r'.zone ≠ 0 ∧ r'.zone = zone ∧ r'.prio ≤ 32766 := by
      intro r' hr'
      obtain ⟨a, b, c, d⟩ := hl r' (List.mem_cons_of_mem _ hr')
      exact ⟨(mem_zoneMove s (hids s hq) r hrm _ r').2 (Or.inl ⟨a, fun e => hln.1 (e ▸ List.mem_map_of_mem hr')⟩), b, c, d⟩
    unfold St.zoneShrinkUsage.go
    by_cases hcond : (!r.strict || r.types == (s0.zoneType zone ||| ty)) = true
    · rw [if_pos hcond]
      have hstrict : r.strict = true → r.types = s0.zoneType r.zone ||| ty := by
        intro hs
        rw [hrzone]
        simpa [hs] using hcond
      have hstep : Q (s.zoneMove (zone ||| nodes) r.id) := by
        have := hmove s r nodes hq ⟨hids s hq, hrm, hrz, hn, hrp, hrzone ▸ ht, s0, extra, ty, hnodes.symm, hrzone ▸ hexp, hstrict⟩
        rwa [hrzone] at this
      dsimp only
      by_cases hm : moved + r.size ≥ amount
      · rw [if_pos hm]; exact hstep
      · rw [if_neg hm]; exact ih _ _ hstep (by rw [zoneMove_nodes]; exact hnodes) hrest hln.2
    · rw [if_neg hcond]; exact ih _ _ hq hnodes (fun r' hr' => hl r' (List.mem_cons_of_mem _ hr')) hln.2

omit hamb in
theorem zoneShrinkUsage_pres (s : St) (hq : Q s) (zone : Mask) (ht : touches nodes0 zone)
    (amount limit : Int) (hl : limit ≤ 32766) (extra : Nat) : Q (s.zoneShrinkUsage zone amount limit extra).1 := by
  unfold St.zoneShrinkUsage
  split
  · exact hq
  · dsimp only
    split
    · exact hq
    · rename_i hnodes
      -- the users list is a permutation of a filter of the request list: members, and distinct
      have hperm := sortBy_perm reqLt (s.reqs.filter (fun r => r.zone ≠ 0 ∧ r.zone == zone ∧ r.prio ≤ limit))
      refine shrinkGo_pres nodes0 Q hids hmove zone _ (fun h => hnodes (beq_iff_eq.2 h)) ht amount _ s extra rfl
        _ s 0 hq rfl ?_ ?_
      · intro r hr
        obtain ⟨hm1, hm2⟩ := List.mem_filter.1 (hperm.mem_iff.1 hr)
        simp only [decide_eq_true_eq] at hm2
        exact ⟨hm1, hm2.1, by simpa using hm2.2.1, Int.le_trans hm2.2.2 hl⟩
      · exact ((hperm.map _).nodup_iff).2 ((List.filter_sublist.map _).nodup (hids s hq))

omit hamb in
theorem ocCell_pres (s : St) (hq : Q s) (oc : List (Mask × Int)) (hoc : ∀ z ∈ oc, touches nodes0 z.1)
    (prio : Int) (hl : prio ≤ 32766) (types : Nat) : Q (s.ocCell nodes0 oc prio types).1 := by
  unfold St.ocCell
  exact List.foldlRecOn (motive := fun (acc : St × Int) => Q acc.1) _ _ hq
    fun acc h z hz => zoneShrinkUsage_pres nodes0 Q hids hmove acc.1 h z.1 (hoc z hz) _ _ hl _

def AccOK (acc : St × List (Mask × Int) × Int × Bool × Nat) : Prop :=
  Q acc.1 ∧ ∀ z ∈ acc.2.1, touches nodes0 z.1

theorem ocStep_pres (acc : St × List (Mask × Int) × Int × Bool × Nat) (c : Int × Nat) (hc : c.1 ≤ 32766)
    (h : AccOK nodes0 Q acc) : AccOK nodes0 Q (St.ocStep nodes0 acc c) := by
  -- `by_cases` + `if_pos`/`if_neg` on the two conditions of `ocStep`: `split` is slow on a goal of this size
  unfold St.ocStep
  by_cases hd : acc.2.2.2.1 = true
  · rw [if_pos hd]; exact h
  · rw [if_neg hd]
    by_cases hs : c.2 ≠ 0 ∧ (c.2 &&& acc.1.availTypes == 0) = true
    · rw [if_pos hs]; exact h
    · rw [if_neg hs]
      exact ⟨hamb _ _ (ocCell_pres nodes0 Q hids hmove acc.1 h.1 acc.2.1 h.2 c.1 hc _), checkOvercommit_touch nodes0 _⟩

theorem ocPass_pres (s : St) (hq : Q s) (oc : List (Mask × Int)) (hoc : ∀ z ∈ oc, touches nodes0 z.1) :
    Q (s.ocPass nodes0 oc).1 ∧ ∀ z ∈ (s.ocPass nodes0 oc).2.1, touches nodes0 z.1 := by
  unfold St.ocPass
  refine List.foldlRecOn (motive := AccOK nodes0 Q) _ (St.ocStep nodes0) (b := (s, oc, 0, false, 0)) ⟨hq, hoc⟩ fun a h c hc => ?_
  refine ocStep_pres nodes0 Q hids hamb hmove a c ?_ h
  -- every cell's priority is one of `allowedPrios`, all below Reservation
  obtain ⟨p, hp, hm⟩ := List.mem_flatMap.1 hc
  obtain ⟨e, _, he⟩ := List.mem_map.1 hm
  subst he
  simp only [allowedPrios, List.mem_cons, List.not_mem_nil, or_false] at hp
  rcases hp with h | h | h <;> subst h <;> simp

theorem resolveOvercommit_pres :
    ∀ (fuel : Nat) (s : St) (oc : List (Mask × Int)), Q s → (∀ z ∈ oc, touches nodes0 z.1) →
      Q (s.resolveOvercommit nodes0 fuel oc).1 := by
  intro fuel
  induction fuel with
  | zero => intro s oc hq _; exact hq
  | succ n ih =>
    intro s oc hq hoc
    have hpass := ocPass_pres nodes0 Q hids hamb hmove s hq oc hoc
    rw [resolveOvercommit_succ]
    -- `(x, e).1` is reduced to `x` before the unifier sees it: it would evaluate `x` to find the pair
    split
    · dsimp only; exact hpass.1
    · split
      · dsimp only; exact hpass.1
      · exact ih _ _ hpass.1 hpass.2

theorem handleOvercommit_presQ (s : St) (hq : Q s) : Q (s.handleOvercommit nodes0).1 := by
  unfold St.handleOvercommit
  dsimp only
  split
  · exact hamb _ _ hq
  · exact resolveOvercommit_pres nodes0 Q hids hamb hmove _ _ _ (hamb _ _ hq) (checkOvercommit_touch nodes0 s)

end Combinator

section
variable (nodes0 : Mask) (P : St → Prop)
variable (hamb : ∀ s x, P s → P { s with ambig := x })
variable (hmove : ∀ s r nodes, P s → MoveOK s nodes0 r nodes → P (s.zoneMove (r.zone ||| nodes) r.id))
include hamb hmove

/-- **The combinator.** A predicate closed under the single primitive of overcommit resolution
(moving a request as `MoveOK` describes it - in the list, assigned, of priority below Reservation,
in a zone the handling of `nodes0` touches - to its zone extended by a non-empty node set) is
preserved by `handleOvercommit`. -/
theorem handleOvercommit_pres (s : St) (hnd : IdsNodup s) (hp : P s) :
    IdsNodup (s.handleOvercommit nodes0).1 ∧ P (s.handleOvercommit nodes0).1 :=
  handleOvercommit_presQ nodes0 (fun s => IdsNodup s ∧ P s) (fun _ h => h.1) (fun s x h => ⟨h.1, hamb s x h.2⟩)
    (fun s r nodes h hm => ⟨zoneMove_idsNodup h.1 _ _, hmove s r nodes h.2 hm⟩) s ⟨hnd, hp⟩

end

theorem sortBy_nil_iff {α} (lt : α → α → Bool) (l : List α) : sortBy lt l = [] ↔ l = [] :=
  ⟨fun h => (List.perm_nil.1 (h ▸ (sortBy_perm lt l).symm)), fun h => by subst h; rfl⟩

theorem checkOvercommit_nil (s : St) (nodes : Mask) (h : s.checkOvercommit nodes = []) :
    ∀ z ∈ s.entries, (nodes = 0 ∨ z &&& nodes ≠ 0) → 0 ≤ s.zoneFree z := by
  intro z hz hn
  unfold St.checkOvercommit at h
  rw [List.map_eq_nil_iff, sortBy_nil_iff, sortBy_nil_iff] at h
  have := List.filter_eq_nil_iff.1 h z hz
  simp only [Bool.and_eq_true, Bool.or_eq_true, beq_iff_eq, ne_eq, decide_eq_true_eq, not_and, Int.not_lt] at this
  exact this hn

theorem checkOvercommit_ambig (s : St) (nodes : Mask) (x : Bool) :
    ({ s with ambig := x } : St).checkOvercommit nodes = s.checkOvercommit nodes := rfl

theorem ocStep_done (nodes : Mask) (acc : St × List (Mask × Int) × Int × Bool × Nat) (c : Int × Nat)
    (h : acc.2.2.2.1 = true → acc.1.checkOvercommit nodes = []) :
    (St.ocStep nodes acc c).2.2.2.1 = true → (St.ocStep nodes acc c).1.checkOvercommit nodes = [] := by
  unfold St.ocStep
  by_cases hnd : acc.2.2.2.1 = true
  · rw [if_pos hnd]; exact h
  · rw [if_neg hnd]
    by_cases hs : c.2 ≠ 0 ∧ (c.2 &&& acc.1.availTypes == 0) = true
    · rw [if_pos hs]; exact fun hd => absurd hd hnd
    · rw [if_neg hs]; exact fun hd => by rw [checkOvercommit_ambig]; simpa using hd

theorem ocPass_done (s : St) (nodes : Mask) (oc : List (Mask × Int)) :
    (s.ocPass nodes oc).2.2.2 = true → (s.ocPass nodes oc).1.checkOvercommit nodes = [] := by
  unfold St.ocPass
  exact List.foldlRecOn (motive := fun acc => acc.2.2.2.1 = true → acc.1.checkOvercommit nodes = []) _ (St.ocStep nodes)
    (b := (s, oc, 0, false, 0)) (fun h => by cases h) fun acc h c _ => ocStep_done nodes acc c h

theorem resolveOvercommit_ok (nodes : Mask) :
    ∀ (fuel : Nat) (s : St) (oc : List (Mask × Int)),
      (s.resolveOvercommit nodes fuel oc).2 = none → (s.resolveOvercommit nodes fuel oc).1.checkOvercommit nodes = [] := by
  intro fuel
  induction fuel with
  | zero => intro s oc h; cases h
  | succ n ih =>
    intro s oc h
    rw [resolveOvercommit_succ] at h ⊢
    split at h
    · rename_i hd; rw [if_pos hd]; dsimp only; exact ocPass_done s nodes oc hd
    · rename_i hd
      rw [if_neg hd]
      split at h
      · cases h
      · rename_i hm; rw [if_neg hm]; exact ih _ _ h

theorem handleOvercommit_ok_fits (s : St) (nodes : Mask) (h : (s.handleOvercommit nodes).2 = none) :
    ∀ z ∈ (s.handleOvercommit nodes).1.entries, (nodes = 0 ∨ z &&& nodes ≠ 0) →
      0 ≤ (s.handleOvercommit nodes).1.zoneFree z := by
  apply checkOvercommit_nil
  unfold St.handleOvercommit at h ⊢
  by_cases he : (s.checkOvercommit nodes).isEmpty
  · rw [if_pos he, checkOvercommit_ambig]
    simpa using he
  · rw [if_neg he] at h ⊢
    exact resolveOvercommit_ok nodes _ _ _ h

end Nri.LibMem
