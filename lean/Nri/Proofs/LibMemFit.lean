import Nri.Proofs.LibMemUpd
/-!
C07/C04 capacity clause over whole histories: every ASSIGNED zone holds no more than its
capacity after every operation.  Ingredients: the zone table contains every assigned zone
(`EF.ent`), requests moved by a transaction end in zones that touch the handled nodes
(`EF.touch`), zones only grow (`Upd.mono`); hence the usage of a zone that does not touch the
handled nodes cannot have grown, and the zones that do touch them were checked by the final
`checkOvercommit`.  Core Lean only.
-/
namespace Nri.LibMem

/-- inside a transaction on `b` that handles `nodes0`: the zone table has every assigned zone (`ent`), and a
request that is no longer where `b` had it sits in a zone that touches `nodes0` (`touch`) -/
structure EF (b : St) (nodes0 : Mask) (s : St) : Prop where
  ent : ∀ q ∈ s.reqs, q.zone ≠ 0 → q.zone ∈ s.entries
  touch : ∀ q ∈ s.reqs, q.zone ≠ zoneIn b q.id → q.zone &&& nodes0 ≠ 0

theorem ef_start (b : St) (hw : WF b) (hent : Ent b) (nodes0 : Mask) : EF b nodes0 b.startJournal :=
  ⟨hent, fun q hq hz => absurd (zoneIn_of_mem b hw.ids q hq).symm hz⟩

/-- any move to a zone that touches the handled nodes, the first of a transaction or a later one -/
theorem ef_set (b : St) (nodes0 : Mask) (s : St) (h : EF b nodes0 s) (hnd : IdsNodup s) (r : Req) (hr : r ∈ s.reqs) (t : Mask)
    (ht : t &&& nodes0 ≠ 0) : EF b nodes0 (s.zoneMove t r.id) := by
  refine ⟨forall_mem_zoneMove hnd hr t (fun q hq _ hz => zoneMove_entries_sup s _ _ _ (h.ent q hq hz)) fun hz => ?_,
    forall_mem_zoneMove hnd hr t (fun q hq _ => h.touch q hq) fun _ => ht⟩
  by_cases e : r.zone = t
  · exact zoneMove_entries_sup s _ _ _ (e ▸ h.ent r hr (e ▸ hz))
  · exact zoneMove_entries_self (req?_of_mem s hnd r hr) e

theorem txn_ef {b : St} {r : Req} {t : Mask} (h : Txn b r t) (hent : Ent b) : EF b t (b.txn t r.id).1 :=
  txn_pres h (EF b t) (fun _ _ he => ⟨he.ent, he.touch⟩)
    (fun s q n he hm => ef_set b t s he hm.ids q hm.mem _ (and_ne_zero_of_msub (msub_or_self q.zone n) (hm.touch.resolve_left h.ne)))
    (ef_set b t _ (ef_start b h.wf hent t) h.wf.ids r h.mem t (by rw [Nat.and_self]; exact h.ne))

/-! ### usage as a sum over the request list -/

def counted (q : Req) (z : Mask) : Prop := q.zone ≠ 0 ∧ msub q.zone z = true

instance (q : Req) (z : Mask) : Decidable (counted q z) := by unfold counted; exact inferInstance

def usageL (l : List Req) (z : Mask) : Int :=
  l.foldl (fun u r => if r.zone ≠ 0 ∧ msub r.zone z then u + r.size else u) 0

theorem zoneUsage_eq (s : St) (z : Mask) : s.zoneUsage z = usageL s.reqs z := rfl

theorem usageL_cons (q : Req) (l : List Req) (z : Mask) :
    usageL (q :: l) z = (if q.zone ≠ 0 ∧ msub q.zone z = true then q.size else 0) + usageL l z := by
  have shift : ∀ (l : List Req) (a : Int),
      l.foldl (fun u r => if r.zone ≠ 0 ∧ msub r.zone z then u + r.size else u) a = a + usageL l z := by
    intro l
    induction l with
    | nil => intro a; simp [usageL]
    | cons r rs ih =>
      intro a
      unfold usageL
      rw [List.foldl_cons, List.foldl_cons, ih, ih (if r.zone ≠ 0 ∧ msub r.zone z = true then 0 + r.size else 0)]
      split <;> omega
  unfold usageL
  rw [List.foldl_cons, shift]
  split <;> simp [usageL]

theorem usageL_append (l1 l2 : List Req) (z : Mask) : usageL (l1 ++ l2) z = usageL l1 z + usageL l2 z := by
  induction l1 with
  | nil => simp [usageL]
  | cons q l ih => rw [List.cons_append, usageL_cons, usageL_cons, ih]; omega

theorem usageL_map_le (l : List Req) (f : Req → Req) (z : Mask)
    (hsize : ∀ q ∈ l, (f q).size = q.size ∧ 0 ≤ q.size)
    (hc : ∀ q ∈ l, ((f q).zone ≠ 0 ∧ msub (f q).zone z = true) → (q.zone ≠ 0 ∧ msub q.zone z = true)) :
    usageL (l.map f) z ≤ usageL l z := by
  induction l with
  | nil => simp [usageL]
  | cons q l ih =>
    rw [List.map_cons, usageL_cons, usageL_cons]
    have ih' := ih (fun x hx => hsize x (List.mem_cons_of_mem _ hx)) (fun x hx => hc x (List.mem_cons_of_mem _ hx))
    obtain ⟨hs1, hs2⟩ := hsize q List.mem_cons_self
    have hcq := hc q List.mem_cons_self
    by_cases c1 : (f q).zone ≠ 0 ∧ msub (f q).zone z = true
    · rw [if_pos c1, if_pos (hcq c1), hs1]; omega
    · rw [if_neg c1]
      split <;> omega

theorem usageL_map_eq (l : List Req) (f : Req → Req) (z : Mask) (hf : ∀ q, (f q).size = q.size ∧ (f q).zone = q.zone) :
    usageL (l.map f) z = usageL l z := by
  induction l with
  | nil => rfl
  | cons q l ih => rw [List.map_cons, usageL_cons, usageL_cons, ih, (hf q).1, (hf q).2]

theorem usageL_filter_le (l : List Req) (p : Req → Bool) (z : Mask) (hsz : ∀ q ∈ l, 0 ≤ q.size) :
    usageL (l.filter p) z ≤ usageL l z := by
  induction l with
  | nil => simp [usageL]
  | cons q l ih =>
    have ih' := ih (fun x hx => hsz x (List.mem_cons_of_mem _ hx))
    have hq := hsz q List.mem_cons_self
    rw [List.filter_cons, usageL_cons]
    split
    · rw [usageL_cons]; omega
    · split <;> omega

theorem zoneFree_of_map (s s' : St) (f : Req → Req) (hf : ∀ q, (f q).size = q.size ∧ (f q).zone = q.zone)
    (hr : s'.reqs = s.reqs.map f) (hn : s'.nodes = s.nodes) (z : Mask) : s'.zoneFree z = s.zoneFree z := by
  unfold St.zoneFree St.zoneCapacity
  rw [zoneUsage_eq, zoneUsage_eq, hr, hn, usageL_map_eq _ _ _ hf]

def FitInv (s : St) : Prop := ∀ q ∈ s.reqs, q.zone ≠ 0 → 0 ≤ s.zoneFree q.zone
def Sizes (s : St) : Prop := ∀ q ∈ s.reqs, 0 ≤ q.size

theorem sizes_committed (s : St) : Sizes s.committed ↔ Sizes s := Iff.rfl
theorem fitInv_committed (s : St) : FitInv s.committed ↔ FitInv s := Iff.rfl

/-- inside a transaction the usage of a node set that does not touch the handled nodes has not grown: zones only
grow, and a request that was moved sits in a zone that touches them -/
theorem usage_untouched_le {b F : St} {nodes0 : Mask} (hbnd : IdsNodup b) (hg : Good b F)
    (hmono : ∀ q ∈ F.reqs, msub (zoneIn b q.id) q.zone = true) (hef : EF b nodes0 F) (hsz : Sizes b) (z : Mask)
    (hz : z &&& nodes0 = 0) : F.zoneUsage z ≤ b.zoneUsage z := by
  obtain ⟨Z, hreqs⟩ := hg.reqs
  rw [zoneUsage_eq, zoneUsage_eq, hreqs]
  refine usageL_map_le _ _ _ (fun x hx => ⟨rfl, hsz x hx⟩) fun x hx hc => ?_
  have hxF : withZone Z x ∈ F.reqs := hreqs ▸ List.mem_map_of_mem hx
  have hmono : msub x.zone (withZone Z x).zone = true := zoneIn_of_mem b hbnd x hx ▸ hmono _ hxF
  refine ⟨fun hx0 => ?_, msub_trans hmono hc.2⟩
  -- an unassigned request of `b` that is counted now was moved, so its zone touches nodes0
  refine hef.touch _ hxF (fun e => hc.1 (e.trans ((zoneIn_of_mem b hbnd x hx).trans hx0))) ?_
  exact Classical.byContradiction fun hne => and_ne_zero_of_msub hc.2 hne hz

/-- `F` is the state at the end of a successful transaction that started from `b` and handled
`nodes0`: if every assigned zone of `b` fits, every assigned zone of `F` fits. -/
theorem fit_core (b F : St) (nodes0 : Mask) (hbnd : IdsNodup b)
    (hg : Good b F) (hmono : ∀ q ∈ F.reqs, msub (zoneIn b q.id) q.zone = true) (hef : EF b nodes0 F)
    (hchk : ∀ z ∈ F.entries, z &&& nodes0 ≠ 0 → 0 ≤ F.zoneFree z)
    (hsz : Sizes b) (hfit : FitInv b) : FitInv F := by
  intro q hq hz
  by_cases htouch : q.zone &&& nodes0 ≠ 0
  · exact hchk _ (hef.ent q hq hz) htouch
  · have ht0 : q.zone &&& nodes0 = 0 := by simpa using htouch
    -- q was not moved: it sits in its zone of `b`, which fitted, and whose usage has not grown
    have hsame : q.zone = zoneIn b q.id := Classical.byContradiction fun hne => hef.touch q hq hne ht0
    obtain ⟨Z, hreqs⟩ := hg.reqs
    obtain ⟨qb, hqb, rfl⟩ := List.mem_map.1 (hreqs ▸ hq)
    have hqbz : qb.zone = (withZone Z qb).zone := (zoneIn_of_mem b hbnd qb hqb).symm.trans hsame.symm
    have hold : 0 ≤ b.zoneFree (withZone Z qb).zone := hqbz ▸ hfit qb hqb (hqbz ▸ hz)
    have hle := usage_untouched_le hbnd hg hmono hef hsz _ ht0
    unfold St.zoneFree St.zoneCapacity at hold ⊢
    rw [hg.nodes]
    omega

theorem txn_fit {b : St} {r : Req} {t : Mask} (h : Txn b r t) (hsz : Sizes b) (hent : Ent b) (hfit : FitInv b)
    (hok : (b.txn t r.id).2 = none) : Sizes (b.txn t r.id).1 ∧ Ent (b.txn t r.id).1 ∧ FitInv (b.txn t r.id).1 := by
  have hg := txn_good h
  have hef := txn_ef h hent
  refine ⟨fun q hq => ?_, hef.ent, ?_⟩
  · obtain ⟨Z, hreqs⟩ := hg.reqs
    obtain ⟨qb, hqb, rfl⟩ := List.mem_map.1 (hreqs ▸ hq)
    exact hsz qb hqb
  · exact fit_core b _ t h.wf.ids hg (txn_upd h).mono hef
      (fun z hz htz => handleOvercommit_ok_fits _ t hok z hz (Or.inr htz)) hsz hfit

theorem AllocateOK.fit {s : St} {r r' : Req} (ha : AllocateOK s r r') (hw : WF s) (hsz : Sizes s) (hent : Ent s)
    (hfit : FitInv s) (hr : 0 ≤ r.size) : Sizes (s.Allocate r).1 ∧ Ent (s.Allocate r).1 ∧ FitInv (s.Allocate r).1 := by
  -- the unassigned new request changes neither the zone table's completeness nor any usage
  have hmem := fun q => (mem_withNew s r' q).1
  have hfree : ∀ z, (withNew s r').zoneFree z = s.zoneFree z := fun z => by
    unfold St.zoneFree
    rw [zoneUsage_eq, zoneUsage_eq, show (withNew s r').reqs = s.reqs ++ [{ r' with zone := 0 }] from rfl, usageL_append]
    simp [usageL, St.zoneCapacity, withNew]
  obtain ⟨a, b, c⟩ := txn_fit (r := { r' with zone := 0 }) (ha.valid.txn hw)
    (fun q hq => (hmem q hq).elim (hsz q) fun e => e ▸ ha.valid.size ▸ hr)
    (fun q hq hz => (hmem q hq).elim (fun hq => hent q hq hz) fun e => absurd (e ▸ rfl) hz)
    (fun q hq hz => hfree _ ▸ (hmem q hq).elim (fun hq => hfit q hq hz) fun e => absurd (e ▸ rfl) hz) ha.ok
  rw [ha.state]
  exact ⟨(sizes_committed _).2 a, ent_committed _ b, (fitInv_committed _).2 c⟩

theorem ReallocOK.fit {s : St} {nodes : Mask} {types : Nat} {r : Req} {n1 : Mask} {t1 : Nat} {nn : Mask} {nt : Nat}
    (ha : ReallocOK s nodes types r n1 t1 nn nt) (hw : WF s) (hsz : Sizes s) (hent : Ent s) (hfit : FitInv s) :
    Sizes (s.Realloc r.id nodes types).1 ∧ Ent (s.Realloc r.id nodes types).1 ∧ FitInv (s.Realloc r.id nodes types).1 := by
  obtain ⟨a, b, c⟩ := txn_fit (ha.txn hw) hsz hent hfit ha.ok
  rw [ha.state]
  -- recording the found types changes neither sizes nor zones
  refine ⟨fun q' hq' => ?_, recorded_ent _ _ _ b, fun q' hq' hz => ?_⟩
  · obtain ⟨q, hq, rfl⟩ := mem_recorded.1 hq'; simpa using a q hq
  · obtain ⟨q, hq, rfl⟩ := mem_recorded.1 hq'
    rw [zoneFree_of_map _ _ (addTypes r.id nt) (fun q => ⟨addTypes_size .., addTypes_zone ..⟩) (recorded_reqs ..) (recorded_nodes ..)]
    rw [addTypes_zone] at hz ⊢
    exact c q hq hz

theorem fitInv_filter (s s' : St) (p : Req → Bool) (hr : s'.reqs = s.reqs.filter p) (hn : s'.nodes = s.nodes) (hsz : Sizes s)
    (hfit : FitInv s) : FitInv s' := by
  intro q hq hz
  have hold := hfit q (List.mem_filter.1 (hr ▸ hq)).1 hz
  unfold St.zoneFree St.zoneCapacity at hold ⊢
  rw [zoneUsage_eq] at hold ⊢
  rw [hr, hn]
  exact Int.le_trans hold (Int.sub_le_sub_left (usageL_filter_le s.reqs p q.zone hsz) _)

end Nri.LibMem
