import Nri.Proofs.LibMemUpd
/-!
C06, offers.  `Commit` replays the offer's update map; the map of a fresh offer is the journal's
of the same internal `allocate`, exact and with unique keys, so the replay is a zone overwrite
that reproduces `Allocate`'s result and assignments (`commit_fresh_*`).  The version never
decreases and stays the same only if the request list stays the same (`run_version`), and the
outcome of a commit depends only on request list and version (`commit_congr`): an offer
committed arbitrarily late is refused or behaves as if fresh (`late_commit`).  The one hypothesis
is `WF`.  Core Lean only.
-/
namespace Nri.LibMem

/-- one update of `Commit`'s replay loop -/
def commitStep (req : Req) (s : St) (p : String × Mask) : St :=
  if p.1 == req.id then
    let s := if (s.req? p.1).isSome then s else { s with reqs := s.reqs ++ [{ req with zone := 0 }] }
    s.zoneAssign p.2 p.1
  else if (s.req? p.1).isSome then s.zoneMove p.2 p.1 else s

theorem commit_eq (s : St) (o : Offer) : s.Commit o =
    if o.version ≠ s.version then (s, .error .expiredOffer) else
    let s' := o.updates.foldl (commitStep o.req) s
    let s' := { s' with version := s'.version + 1 }
    (s'.cleanupUnusedZones, .ok ⟨(alGet o.updates o.req.id).getD 0, alErase o.updates o.req.id⟩) := rfl

theorem commitStep_reqs (req : Req) (s : St) (hnd : IdsNodup s) (p : String × Mask) :
    (commitStep req s p).reqs =
      (if p.1 = req.id ∧ s.req? req.id = none then s.reqs ++ [{ req with zone := 0 }] else s.reqs).map (setz p.1 p.2) := by
  unfold commitStep
  by_cases hp : p.1 = req.id
  · cases hr : s.req? req.id <;> simp [hp, hr, zoneAssign_eq]
  · simp only [beq_iff_eq, hp, if_false, false_and]
    split
    · exact zoneMove_reqs s hnd p.2 p.1
    · rename_i hnone
      rw [← zoneMove_reqs s hnd, zoneMove_unknown p.2 (Option.not_isSome_iff_eq_none.1 hnone)]

theorem commitStep_frame (req : Req) (s : St) (p : String × Mask) :
    (commitStep req s p).nodes = s.nodes ∧ (commitStep req s p).version = s.version ∧
    (s.journal = none → (commitStep req s p).journal = none) := by
  unfold commitStep
  split
  · split <;> exact ⟨rfl, rfl, fun h => by simp [zoneAssign_eq, h]⟩
  · split
    · exact ⟨zoneMove_nodes .., zoneMove_version .., zoneMove_journal_none _ _ _⟩
    · exact ⟨rfl, rfl, id⟩

theorem commitStep_wf (req : Req) (s : St) (hw : WF s) (p : String × Mask) : WF (commitStep req s p) := by
  refine ⟨(commitStep_frame req s p).2.2 hw.journal, ?_⟩
  rw [commitStep_reqs req s hw.ids, map_setz_ids]
  split
  · rename_i h; exact withNew_ids s hw.ids req h.2
  · exact hw.ids

theorem commit_wf (s : St) (hw : WF s) (o : Offer) : WF (s.Commit o).1 := by
  rw [commit_eq]
  split
  · exact hw
  · have := List.foldlRecOn (motive := WF) o.updates (commitStep o.req) hw fun a h x _ => commitStep_wf o.req a h x
    exact ⟨this.journal, this.ids⟩

theorem Commit_nodes (s : St) (o : Offer) : (s.Commit o).1.nodes = s.nodes := by
  rw [commit_eq]
  split
  · rfl
  · exact List.foldlRecOn (motive := fun t => t.nodes = s.nodes) _ (commitStep o.req) rfl fun a h x _ => (commitStep_frame o.req a x).1.trans h

/-- override the zones of a request list by an update map -/
def ov (U : List (String × Mask)) (q : Req) : Req :=
  match alGet U q.id with
  | some z => { q with zone := z }
  | none => q

theorem ov_setz (id : String) (z : Mask) (U : List (String × Mask)) (hid : id ∉ U.map (·.1)) (q : Req) :
    ov U (setz id z q) = ov ((id, z) :: U) q := by
  unfold ov
  rw [alGet_cons, setz_id]
  by_cases e : q.id = id
  · rw [setz_of_eq z e, if_pos (by simp [e]), e, alGet_none_of_not_mem U id hid]
  · rw [setz_of_ne z e, if_neg (by simpa using Ne.symm e)]

theorem map_ov_nil (l : List Req) : l.map (ov []) = l := List.map_id'' (fun _ => rfl) l

/-- **the replay as a whole**: the requester is appended (once) if the map names it and it is new;
every entry of the map overwrites one zone -/
theorem replay_reqs (req : Req) :
    ∀ (U : List (String × Mask)) (t : St), IdsNodup t → (U.map (·.1)).Nodup →
      (U.foldl (commitStep req) t).reqs =
        (if req.id ∈ U.map (·.1) ∧ t.req? req.id = none then t.reqs ++ [{ req with zone := 0 }] else t.reqs).map (ov U) ∧
      IdsNodup (U.foldl (commitStep req) t) := by
  intro U
  induction U with
  | nil => intro t hnd _; exact ⟨by simp [map_ov_nil], hnd⟩
  | cons p U ih =>
    intro t hnd hU
    rw [List.map_cons, List.nodup_cons] at hU
    have hstep := commitStep_reqs req t hnd p
    have hov : ∀ l : List Req, (l.map (setz p.1 p.2)).map (ov U) = l.map (ov (p :: U)) := fun l => by
      rw [List.map_map]; exact List.map_congr_left fun q _ => ov_setz p.1 p.2 U hU.1 q
    by_cases hc : p.1 = req.id ∧ t.req? req.id = none
    · -- the requester's own entry: it is appended and assigned; from now on it is present
      rw [if_pos hc] at hstep
      have hnd' : IdsNodup (commitStep req t p) := by
        unfold IdsNodup; rw [hstep, map_setz_ids]; exact withNew_ids t hnd req hc.2
      have hpres : ¬(req.id ∈ U.map (·.1) ∧ (commitStep req t p).req? req.id = none) := fun h =>
        (req?_eq_none_iff _ _).1 h.2 (by rw [hstep, map_setz_ids]; simp)
      obtain ⟨ih1, ih2⟩ := ih _ hnd' hU.2
      rw [List.foldl_cons, ih1, if_neg hpres, hstep, hov, if_pos ⟨by simp [hc.1], hc.2⟩]
      exact ⟨rfl, ih2⟩
    · rw [if_neg hc] at hstep
      have hids : (commitStep req t p).reqs.map (·.id) = t.reqs.map (·.id) := by rw [hstep, map_setz_ids]
      have hnone : (commitStep req t p).req? req.id = none ↔ t.req? req.id = none := by
        rw [req?_eq_none_iff, req?_eq_none_iff, hids]
      obtain ⟨ih1, ih2⟩ := ih (commitStep req t p) (by unfold IdsNodup; rw [hids]; exact hnd) hU.2
      refine ⟨?_, ih2⟩
      rw [List.foldl_cons, ih1, hstep]
      simp only [hnone]
      by_cases hc' : req.id ∈ U.map (·.1) ∧ t.req? req.id = none
      · have hp : p.1 ≠ req.id := fun e => hc ⟨e, hc'.2⟩
        rw [if_pos hc', if_pos ⟨by simp [hc'.1], hc'.2⟩, ← hov, List.map_append (f := setz p.1 p.2),
          List.map_singleton, setz_of_ne p.2 (show ({ req with zone := 0 } : Req).id ≠ p.1 from Ne.symm hp)]
      · rw [if_neg hc', hov, if_neg fun h => ?_]
        rcases List.mem_cons.1 h.1 with e | e
        · exact hc ⟨e.symm, h.2⟩
        · exact hc' ⟨e, h.2⟩

/-- replay with the requester already present: every step is a zone overwrite -/
theorem replay_present (req : Req) :
    ∀ (U : List (String × Mask)) (t : St), IdsNodup t → (U.map (·.1)).Nodup → (t.req? req.id).isSome →
      (U.foldl (commitStep req) t).reqs = t.reqs.map (ov U) ∧ IdsNodup (U.foldl (commitStep req) t) := by
  intro U t hnd hU hpres
  have := replay_reqs req U t hnd hU
  rwa [if_neg fun h => by simp [h.2] at hpres] at this

/-- replay with the requester absent and named by the map: it is appended once, everything
else is a zone overwrite -/
theorem replay_absent (req : Req) :
    ∀ (U : List (String × Mask)) (t : St), IdsNodup t → (U.map (·.1)).Nodup → t.req? req.id = none →
      req.id ∈ U.map (·.1) →
      (U.foldl (commitStep req) t).reqs = (t.reqs ++ [{ req with zone := 0 }]).map (ov U) := by
  intro U t hnd hU hnone hin
  rw [(replay_reqs req U t hnd hU).1, if_pos ⟨hin, hnone⟩]

/-- the outcome of committing an offer whose request is not yet known depends only on the request
list and the version of the state it is committed in. -/
theorem commit_congr (s t : St) (hs : IdsNodup s) (ht : IdsNodup t) (hr : s.reqs = t.reqs) (hv : s.version = t.version)
    (o : Offer) (hk : (o.updates.map (·.1)).Nodup) (hnone : s.req? o.req.id = none) (hin : o.req.id ∈ o.updates.map (·.1)) :
    (s.Commit o).2 = (t.Commit o).2 ∧ (s.Commit o).1.reqs = (t.Commit o).1.reqs := by
  have hnone' : t.req? o.req.id = none := req?_congr hr _ ▸ hnone
  rw [commit_eq, commit_eq, hv]
  by_cases hne : o.version ≠ t.version
  · rw [if_pos hne, if_pos hne]; exact ⟨rfl, hr⟩
  · rw [if_neg hne, if_neg hne]
    refine ⟨rfl, ?_⟩
    show (o.updates.foldl (commitStep o.req) s).reqs = (o.updates.foldl (commitStep o.req) t).reqs
    rw [replay_absent o.req o.updates s hs hk hnone hin, replay_absent o.req o.updates t ht hk hnone' hin, hr]

/-- an exact update map, replayed onto the request list of the base state, gives the current one -/
theorem map_ov_updates {b F : St} (hg : Good b F) (hu : Upd b F) (hnd : IdsNodup b) : F.reqs = b.reqs.map (ov F.updates) := by
  obtain ⟨Z, hreqs⟩ := hg.reqs
  rw [hreqs]
  refine List.map_congr_left fun q hq => ?_
  have hqF : withZone Z q ∈ F.reqs := hreqs ▸ List.mem_map_of_mem hq
  unfold ov
  cases hget : alGet F.updates q.id with
  | some z =>
    -- the map names `q`: with its current zone
    obtain ⟨q2, hq2, hq2id, hq2z, _⟩ := hu.sound q.id z hget
    obtain ⟨q0, hq0, rfl⟩ := List.mem_map.1 (hreqs ▸ hq2)
    cases eq_of_id_eq b hnd hq0 hq hq2id
    exact congrArg (fun z => ({ q with zone := z } : Req)) hq2z
  | none =>
    -- the map does not name `q`: its zone is the one of `b`
    have hsame : (withZone Z q).zone = q.zone := Classical.byContradiction fun hne => by
      have := hu.complete _ hqF ((zoneIn_of_mem _ hnd q hq).symm ▸ hne)
      rw [show (withZone Z q).id = q.id from rfl, hget] at this
      cases this
    exact congrArg (fun z => ({ q with zone := z } : Req)) hsame

/-- a fresh offer in terms of what `Allocate` would do in the same state: its update map has unique keys,
names the (new) requester, and replaying it onto the request list gives `Allocate`'s request list and result -/
theorem offer_spec (s : St) (hw : WF s) (r : Req) (o : Offer) (h : (s.GetOffer r).2 = .ok o) :
    o.version = s.version ∧ s.req? o.req.id = none ∧ (o.updates.map (·.1)).Nodup ∧ o.req.id ∈ o.updates.map (·.1) ∧
    (s.Allocate r).1.reqs = (s.reqs ++ [{ o.req with zone := 0 }]).map (ov o.updates) ∧
    (s.Allocate r).2 = .ok ⟨(alGet o.updates o.req.id).getD 0, alErase o.updates o.req.id⟩ := by
  obtain ⟨r', ha, ho⟩ := (GetOffer_view s hw r).2 o h
  have hoid : o.req.id = r'.id := by rw [ho]
  have hreq : ({ o.req with zone := 0 } : Req) = { r' with zone := 0 } := by rw [ho]
  have hupd : o.updates = (s.allocTxn r').1.updates := by rw [ho]
  rw [hoid, hreq, hupd]
  have hT := ha.valid.txn hw
  have hu := ha.valid.upd hw
  have hg := allocTxn_good hw ha.valid
  -- the requester is still in the list, now assigned: its zone differs from the one in `withNew`, so the map names it
  obtain ⟨qr, hq, hqid⟩ : ∃ qr ∈ (s.allocTxn r').1.reqs, qr.id = r'.id := by
    obtain ⟨Z, hZ⟩ := hg.reqs
    exact ⟨withZone Z { r' with zone := 0 }, hZ ▸ List.mem_map_of_mem hT.mem, rfl⟩
  have hget : alGet (s.allocTxn r').1.updates r'.id = some qr.zone :=
    hqid ▸ hu.complete qr hq (hqid ▸ (zoneIn_of_mem _ hT.wf.ids _ hT.mem).symm ▸ txn_assigned hT qr hq hqid)
  have hqr : (s.allocTxn r').1.req? r'.id = some qr := hqid ▸ req?_of_mem _ (allocTxn_ids hw ha.valid) qr hq
  refine ⟨by rw [ho], ha.valid.new, hu.keys, (alGet_isSome_iff _ _).1 (by rw [hget]; rfl),
    by rw [ha.state, committed_reqs]; exact map_ov_updates hg hu hT.wf.ids, ?_⟩
  rw [ha.result, hqr, hget]
  rfl

theorem commit_fresh_result_eq_allocate (s : St) (hw : WF s) (r : Req) (o : Offer)
    (h : (s.GetOffer r).2 = .ok o) :
    ((s.GetOffer r).1.Commit o).2 = (s.Allocate r).2 := by
  obtain ⟨hv, _, _, _, _, hres⟩ := offer_spec s hw r o h
  -- Commit is not refused: the version is the current one
  rw [commit_eq, if_neg (by rw [hv, (GetOffer_view s hw r).1.version]; simp), hres]

theorem commit_fresh_reqs_eq_allocate (s : St) (hw : WF s) (r : Req) (o : Offer)
    (h : (s.GetOffer r).2 = .ok o) :
    ((s.GetOffer r).1.Commit o).1.reqs = (s.Allocate r).1.reqs := by
  obtain ⟨hv, hnone, hkn, hin, hA, _⟩ := offer_spec s hw r o h
  have hres := (GetOffer_view s hw r).1
  rw [commit_eq, if_neg (by rw [hv, hres.version]; simp)]
  show (o.updates.foldl (commitStep o.req) (s.GetOffer r).1).reqs = _
  rw [replay_absent _ _ _ (hres.wf hw).ids hkn (req?_congr hres.reqs _ ▸ hnone) hin, hres.reqs, hA]

theorem run_version (ops : List Op) : ∀ (s : St), WF s →
    WF (s.run ops) ∧ s.version ≤ (s.run ops).version ∧ ((s.run ops).version = s.version → (s.run ops).reqs = s.reqs) := by
  induction ops with
  | nil => intro s hw; exact ⟨hw, Nat.le_refl _, fun _ => rfl⟩
  | cons op ops ih =>
    intro s hw
    obtain ⟨hw2, hle2, heq2⟩ := ih (s.step op) (step_wf s hw op)
    refine ⟨hw2, ?_⟩
    show s.version ≤ ((s.step op).run ops).version ∧ (((s.step op).run ops).version = s.version → ((s.step op).run ops).reqs = s.reqs)
    -- one operation keeps version and request list, or moves the version on for good
    rcases step_outcome s hw op with h | ⟨⟨_, h⟩, _⟩
    · rw [← h.version, ← h.reqs]; exact ⟨hle2, heq2⟩
    · exact ⟨by omega, fun e => by omega⟩

/-- an offer committed after any further history: refused without change once the version has moved on,
else (the request list is then the one the offer was computed in) with the outcome of a direct `Allocate` -/
theorem late_commit (s : St) (hw : WF s) (r : Req) (o : Offer) (h : (s.GetOffer r).2 = .ok o) (ops : List Op) :
    (o.version ≠ ((s.GetOffer r).1.run ops).version →
        ((s.GetOffer r).1.run ops).Commit o = (((s.GetOffer r).1.run ops), .error .expiredOffer)) ∧
    (o.version = ((s.GetOffer r).1.run ops).version →
        ((s.GetOffer r).1.run ops).reqs = s.reqs ∧
        (((s.GetOffer r).1.run ops).Commit o).2 = (s.Allocate r).2 ∧
        (((s.GetOffer r).1.run ops).Commit o).1.reqs = (s.Allocate r).1.reqs) := by
  have hres := (GetOffer_view s hw r).1
  obtain ⟨hw2, _, heq⟩ := run_version ops (s.GetOffer r).1 (hres.wf hw)
  refine ⟨fun hne => by rw [commit_eq, if_pos hne], fun hv => ?_⟩
  obtain ⟨hov, hnone, hkn, hin, _, _⟩ := offer_spec s hw r o h
  have hv2 : ((s.GetOffer r).1.run ops).version = (s.GetOffer r).1.version := hv.symm.trans (hov.trans hres.version.symm)
  have hreqs := (heq hv2).trans hres.reqs
  obtain ⟨c1, c2⟩ := commit_congr ((s.GetOffer r).1.run ops) (s.GetOffer r).1 hw2.ids (hres.wf hw).ids (heq hv2) hv2
    o hkn (req?_congr hreqs _ ▸ hnone) hin
  exact ⟨hreqs, c1.trans (commit_fresh_result_eq_allocate s hw r _ h), c2.trans (commit_fresh_reqs_eq_allocate s hw r _ h)⟩

end Nri.LibMem
