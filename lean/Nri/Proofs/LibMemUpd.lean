import Nri.Proofs.LibMemTxn
/-!
C07 "the set of moved allocations reported to the caller is exactly the set whose assignment
changed, with their new assignments": the journal's `updates` map is, at every point of a
transaction, exactly the map `id ↦ current zone` of the requests whose zone differs from the
one they had when the transaction started, and its keys are unique.  This needs nothing of the placement
rules, only that zones grow inside a transaction (`Upd.mono`).  Core Lean only.
-/
namespace Nri.LibMem

/-- the journal's update map is exact relative to `b`, with unique keys; zones have only grown since `b`
(which is what keeps a request that moved twice from being reported at its old zone) -/
structure Upd (b s : St) : Prop where
  opened : s.journal.isSome
  complete : ∀ q ∈ s.reqs, q.zone ≠ zoneIn b q.id → alGet s.updates q.id = some q.zone
  sound : ∀ id z, alGet s.updates id = some z → ∃ q ∈ s.reqs, q.id = id ∧ q.zone = z ∧ z ≠ zoneIn b id
  keys : (s.updates.map (·.1)).Nodup
  mono : ∀ q ∈ s.reqs, msub (zoneIn b q.id) q.zone = true

theorem upd_start (b : St) (hw : WF b) : Upd b b.startJournal :=
  ⟨rfl, fun q hq hz => absurd (zoneIn_of_mem b hw.ids q hq).symm hz, (fun _ _ h => nomatch h), List.nodup_nil,
    fun q hq => zoneIn_of_mem b hw.ids q hq ▸ msub_refl _⟩

/-- any move to a superset zone, the first of a transaction or a later one -/
theorem upd_set (b s : St) (h : Upd b s) (hnd : IdsNodup s) (r : Req) (hr : r ∈ s.reqs) (t : Mask) (ht : t ≠ 0)
    (hsub : msub r.zone t = true) : Upd b (s.zoneMove t r.id) := by
  have hmono := forall_mem_zoneMove hnd hr t (fun q hq _ => h.mono q hq) (msub_trans (h.mono r hr) hsub)
  by_cases hne : r.zone = t
  · rw [← hne, zoneMove_same (req?_of_mem s hnd r hr) (hne ▸ ht)]; exact h
  -- a zone that grew is not the one of `b`, which it contains
  have hnew : t ≠ zoneIn b r.id := fun e => hne (msub_antisymm hsub (e ▸ h.mono r hr))
  have hmem := mem_zoneMove s hnd r hr t
  obtain ⟨j, hj⟩ := Option.isSome_iff_exists.1 h.opened
  have hjm : (s.zoneMove t r.id).journal = some (j.move r.zone t r.id) := by
    rw [zoneMove_eq (req?_of_mem s hnd r hr) (fun e => hne e.2)]; simp [St.moved, hj]
  have hupd : (s.zoneMove t r.id).updates = alSet s.updates r.id t := by
    rw [updates_of_journal hjm, updates_of_journal hj]; rfl
  refine ⟨by rw [hjm]; rfl, fun q' hq' hz => ?_, fun id z hz => ?_, hupd ▸ alSet_keys_nodup _ _ _ h.keys, hmono⟩
  · rw [hupd, alGet_alSet]
    rcases (hmem q').1 hq' with ⟨hq, hid⟩ | rfl
    · rw [if_neg hid]; exact h.complete q' hq hz
    · rw [if_pos rfl]
  · rw [hupd, alGet_alSet] at hz
    split at hz
    · rename_i e
      cases hz; subst e
      exact ⟨_, (hmem _).2 (Or.inr rfl), rfl, rfl, hnew⟩
    · rename_i e
      obtain ⟨q, hq, hqid, hqz, hqn⟩ := h.sound id z hz
      exact ⟨q, (hmem q).2 (Or.inl ⟨hq, hqid ▸ e⟩), hqid, hqz, hqn⟩

theorem txn_upd {b : St} {r : Req} {t : Mask} (h : Txn b r t) : Upd b (b.txn t r.id).1 :=
  txn_pres h (Upd b) (fun _ _ hu => ⟨hu.opened, hu.complete, hu.sound, hu.keys, hu.mono⟩)
    (fun s q n hu hm => upd_set b s hu hm.ids q hm.mem _ (or_ne_zero_right hm.new) (msub_or_self q.zone n))
    (upd_set b _ (upd_start b h.wf) h.wf.ids r h.mem t h.ne h.sub)

theorem txn_assigned {b : St} {r : Req} {t : Mask} (h : Txn b r t) :
    ∀ q ∈ (b.txn t r.id).1.reqs, q.id = r.id → q.zone ≠ 0 :=
  txn_pres h (fun s => ∀ q ∈ s.reqs, q.id = r.id → q.zone ≠ 0) (fun _ _ hs => hs)
    (fun _ _ _ hs hm => forall_mem_zoneMove hm.ids hm.mem _ (fun q' hq' _ => hs q' hq') fun _ => or_ne_zero_right hm.new)
    (forall_mem_zoneMove (s := b.startJournal) h.wf.ids h.mem t (fun _ _ hne e => absurd e hne) fun _ => h.ne)

theorem Validated.upd {s : St} {r r' : Req} (hv : Validated s r r') (hw : WF s) : Upd (withNew s r') (s.allocTxn r').1 :=
  txn_upd (r := { r' with zone := 0 }) (hv.txn hw)

theorem ReallocOK.upd {s : St} {nodes : Mask} {types : Nat} {r : Req} {n1 : Mask} {t1 : Nat} {nn : Mask} {nt : Nat}
    (ha : ReallocOK s nodes types r n1 t1 nn nt) (hw : WF s) : Upd s (s.txn (r.zone ||| n1 ||| nn) r.id).1 :=
  txn_upd (ha.txn hw)

end Nri.LibMem
