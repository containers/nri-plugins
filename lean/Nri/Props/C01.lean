import Nri.Model.TopoAware
import Nri.Gen.TAPinFacts
import Nri.Proofs.TopoAware
import Nri.Gen.TAFacts
/-!
C01 — topology-aware: exclusively granted CPUs are exclusive to one container.

`exclusive_always`: for every well-formed pool tree, every history of allocations and releases
and every choice of pool and CPUs (the heuristics are oracle arguments of `alloc`), the CPUs
granted exclusively are pairwise disjoint between grants and are in no pool's free isolated or
free sharable set (clauses (a) and (c) of the property; the shared set every non-exclusive
container is pinned to is a pool's free sharable set, which yields (b) for containers whose
pinning is up to date).  Clauses (d),(e) (inside the available CPUs; reserved CPUs only to
reserved-class containers) and the runtime-side reading of (b) are evaluated on every snapshot
and every delivered message of the correspondence run (partial: not proved in Lean).

Second half, the pinning rule: `pin_avoids_exclusive` (clause (b) for a grant whose pin is computed
from the current free sets), `skipped_pin_is_stable` (the grants `updateSharedAllocations` skips keep
their pin whatever happens to the free sets), tied to the code by `gen_ta_pin_facts_ok`.
-/
namespace Nri.TA

theorem gen_ta_facts_ok :
    Nri.Gen.TA.accountAllocateWalk = ["DepthFirst", "Parent"] ∧
    Nri.Gen.TA.accountSkipsOwnNode = true ∧
    Nri.Gen.TA.releaseRestoresToOwnPool = true ∧
    Nri.Gen.TA.cloneKeepsPortion = true ∧
    Nri.Gen.TA.reserveAccountsReservedPortion = true := ⟨rfl, rfl, rfl, rfl, rfl⟩

inductive Op where
  | alloc (ctr : String) (pool full fraction : Nat) (isolate : Bool) (ct : CpuType) (excl : List Nat)
  | release (ctr : String)

/-- one request against the accounting model; a refused allocation leaves the state unchanged -/
def stepOp (t : TA) : Op → TA
  | .alloc ctr i full fraction isolate ct excl =>
    match alloc t ctr i full fraction isolate ct excl with
    | .ok (t', g) => addGrant t' g
    | .error _ => t
  | .release ctr =>
    match t.grants.find? (·.ctr == ctr) with
    | some g => dropGrant (release t g) g.ctr
    | none => t

structure Inv (tree : List PoolT) (t : TA) : Prop where
  treeEq : t.tree = tree
  excl : ExclInv t
  fw : FreeWithinTot t
  gw : GrantWithin t

theorem inv_init (tree : List PoolT) : Inv tree (initTA tree) := by
  refine ⟨rfl, ⟨(fun _ h => nomatch h), List.Pairwise.nil⟩, fun j pt hpt => ?_, (fun _ h => nomatch h)⟩
  simp only [initTA, show tree[j]? = some pt from hpt]
  exact ⟨fun _ => id, fun _ => id⟩

theorem inv_step (tree : List PoolT) (hwf : TreeWF tree) (t : TA) (op : Op) (h : Inv tree t) : Inv tree (stepOp t op) := by
  obtain ⟨rfl, hex, hfw, hgw⟩ := h
  cases op with
  | alloc ctr i full fraction isolate ct excl =>
    simp only [stepOp]
    cases ha : alloc t ctr i full fraction isolate ct excl with
    | error e => exact ⟨rfl, hex, hfw, hgw⟩
    | ok r =>
      obtain ⟨h1, h2, h3, h4⟩ := alloc_preserves_exclusive hwf hfw hgw hex ha
      exact ⟨h4, h1, h2, h3⟩
  | release ctr =>
    simp only [stepOp]
    cases hf : t.grants.find? (·.ctr == ctr) with
    | none => exact ⟨rfl, hex, hfw, hgw⟩
    | some g =>
      obtain ⟨h1, h2, h3⟩ := release_preserves_exclusive t g (List.mem_of_find?_eq_some hf) hfw hgw hex
      exact ⟨release_tree t g, h1, h2, h3⟩

/-- every reachable accounting state: exclusivity together with the two bounds it is inductive with (free CPUs
and granted CPUs lie within the CPUs of their pool) -/
theorem inv_always (tree : List PoolT) (hwf : TreeWF tree) (ops : List Op) : Inv tree (ops.foldl stepOp (initTA tree)) :=
  List.foldlRecOn ops stepOp (inv_init tree) fun t h op _ => inv_step tree hwf t op h

/-- **C01 (a),(c), always.** -/
theorem exclusive_always (tree : List PoolT) (hwf : TreeWF tree) (ops : List Op) :
    ExclInv (ops.foldl stepOp (initTA tree)) :=
  (inv_always tree hwf ops).excl

/-- no exclusively granted CPU is in any pool's free sharable set - the set a container that is not pinned
exclusively is pinned to (clause (b) for up-to-date pinning). -/
theorem shared_pinning_avoids_exclusive (tree : List PoolT) (hwf : TreeWF tree) (ops : List Op) :
    let t := ops.foldl stepOp (initTA tree)
    ∀ g ∈ t.grants, ∀ j, j < t.tree.length → ∀ x, x ∈ g.exclusive → x ∉ (t.pools j).sharable :=
  fun g hg j hj x hx => ((exclusive_always tree hwf ops).notFree g hg j hj x hx).2

-- non-vacuity: allocations succeed on a 2-socket tree with a virtual root
def exTree : List PoolT :=
  [⟨some 2, [], [0, 1, 2, 3], []⟩, ⟨some 2, [], [4, 5, 6], [7]⟩, ⟨none, [], [0, 1, 2, 3, 4, 5, 6], [7]⟩]

example : (match alloc (initTA exTree) "c1" 0 2 0 false .normal [0, 1] with
    | .ok (t', g) => g.exclusive == [0, 1] && (t'.pools 2).sharable == [2, 3, 4, 5, 6] && (t'.pools 0).sharable == [2, 3]
    | .error _ => false) = true := by decide

/-! ### clause (b): the cpuset told for a container avoids every other container's exclusive CPUs -/

theorem pinOf_normal {t : TA} {g : Grant} {w : List Nat} (hn : g.cpuType = .normal) (hw : pinOf t g = some w) :
    ∀ x ∈ w, x ∈ g.exclusive ∨ x ∈ (t.pools g.pool).sharable := by
  simp only [pinOf, hn] at hw
  split at hw
  · cases hw; exact fun _ => .inr
  split at hw
  · cases hw; exact fun x hx => (mem_uni _ _ _).mp hx
  · cases hw; exact fun _ => .inl

/-- neither the grant's own exclusive CPUs (`disjoint`) nor a free sharable one (`notFree`) -/
theorem ExclInv.pin_avoids {t : TA} (hinv : ExclInv t) {g g' : Grant} (hg : g ∈ t.grants) (hn : g.cpuType = .normal)
    (hp : g.pool < t.tree.length) {w : List Nat} (hw : pinOf t g = some w) (hg' : g' ∈ t.grants) (hne : g' ≠ g) :
    ∀ x, x ∈ w → x ∉ g'.exclusive := fun x hx hx' =>
  (pinOf_normal hn hw x hx).elim (hinv.disjoint_of_ne hg' hg hne x hx') (hinv.notFree g' hg' g.pool hp x hx').2

/-- **C01 (b), for every reachable accounting state**: the cpuset that `applyGrant` /
`updateSharedAllocations` compute for a normal-class grant (its pool's free sharable set, its own
exclusive CPUs, or both) contains no CPU that is exclusively granted to another container -/
theorem pin_avoids_exclusive (tree : List PoolT) (hwf : TreeWF tree) (ops : List Op) :
    let t := ops.foldl stepOp (initTA tree)
    ∀ g ∈ t.grants, g.cpuType = .normal → g.pool < t.tree.length → ∀ w, pinOf t g = some w →
    ∀ g' ∈ t.grants, g' ≠ g → ∀ x, x ∈ w → x ∉ g'.exclusive :=
  fun _ hg hn hp _ hw _ hg' hne => (exclusive_always tree hwf ops).pin_avoids hg hn hp hw hg' hne

/-- the pin of a grant `updateSharedAllocations` skips does not depend on the pools' free sets
(reserved-class: the pool's reserved CPUs; purely exclusive: its own CPUs; preserve: none), so
skipping them never leaves a stale cpuset behind -/
theorem skipped_pin_is_stable (t t' : TA) (g : Grant) (htree : t.tree = t'.tree) (hs : refreshed g = false) :
    pinOf t g = pinOf t' g := by
  unfold refreshed at hs
  unfold pinOf
  cases hct : g.cpuType with
  | reserved => simp only [htree]
  | preserve => rfl
  | normal =>
    simp only [hct, beq_self_eq_true, Bool.true_and, Bool.not_eq_false', Bool.and_eq_true, beq_iff_eq,
      Bool.not_eq_true'] at hs
    have he : g.exclusive.isEmpty = false := by simpa using hs.2
    have hp : ¬ g.portion > 0 := by omega
    simp only [he, Bool.false_eq_true, if_false, hp]

-- non-vacuity: after a shared grant at socket #0 and an exclusive one at the root, the shared container's
-- pin is the socket's remaining sharable set and avoids the exclusive CPUs
example :
    let t := [Op.alloc "a" 0 0 500 false .normal [], Op.alloc "b" 2 2 0 false .normal [0, 1]].foldl stepOp (initTA exTree)
    t.grants.map (fun g => (g.ctr, pinOf t g)) = [("a", some [2, 3]), ("b", some [0, 1])] := by decide

end Nri.TA

/-! ### source shapes the model was written against (TAPinFacts.lean; the regenerated facts must equal them) -/
namespace Nri.TA.Expectgen_ta_pin_facts_ok
def applyGrantCpus : List String := ["exclusive := grant.ExclusiveCPUs()", "reserved := grant.ReservedCPUs()", "shared := grant.SharedCPUs()", "cpuPortion := grant.SharedPortion()", "cpus := cpuset.New()", "switch cpuType", "> case cpuNormal", "> > if exclusive.IsEmpty()", "> > > cpus = shared", "> > else", "> > > if cpuPortion > 0", "> > > > cpus = exclusive.Union(shared)", "> > > else", "> > > > cpus = exclusive", "> case cpuReserved", "> > cpus = reserved", "> > cpuPortion = grant.ReservedPortion()", "> default", "> > return", "if opt.PinCPU", "> if cpuType == cpuPreserve", "> else", "> > if cpus.Size() > 0", "> > > p.setPreferredCpusetCpus(container, cpus, fmt.Sprintf(…)", "> > else", "> > > container.SetCpusetCpus(\"\")"]
def updateShared : List String := ["if grant != nil", "> if (*grant).CPUType() == cpuReserved", "> > return", "else", "range p.allocations.grants", "> if grant != nil", "> > if other.GetContainer().GetID() == (*grant).GetContainer().GetID()", "> > > continue", "> if other.CPUType() == cpuReserved", "> > continue", "> if other.CPUType() == cpuPreserve", "> > continue", "> if other.SharedPortion() == 0 && !other.ExclusiveCPUs().IsEmpty()", "> > continue", "> if opt.PinCPU", "> > shared := other.GetCPUNode().FreeSupply().SharableCPUs()", "> > exclusive := other.ExclusiveCPUs()", "> > if exclusive.IsEmpty()", "> > > p.setPreferredCpusetCpus(other.GetContainer(), shared, fmt.Sprintf(…)", "> > else", "> > > p.setPreferredCpusetCpus(other.GetContainer(), exclusive.Union(shared), fmt.Sprintf(…)"]
def setPreferred : List String := ["allow := allocated", "if ok && hideHyperthreadsPreference(pod, container)", "> allow = p.sys.SingleThreadForCPUs(allocated)", "> if allow.Size() != allocated.Size()", "> > hidingInfo = fmt.Sprintf(…)", "> else", "container.SetCpusetCpus(allow.String())"]
def grantSharedCPUs : List String := ["return cg.node.FreeSupply().SharableCPUs()"]
def grantReservedCPUs : List String := ["return cg.node.GetSupply().ReservedCPUs()"]
def grantExclusiveCPUs : List String := ["return cg.exclusive"]
def grantSharedPortion : List String := ["if cg.cpuType == cpuNormal", "> return cg.cpuPortion", "return 0"]
end Nri.TA.Expectgen_ta_pin_facts_ok

namespace Nri.TA

/-- the regenerated skeletons of applyGrant's cpuset computation (by grant class), of updateSharedAllocations' skip rules and re-pinning, of setPreferredCpusetCpus and of the grant accessors are the ones pinOf / refreshed follow -/
theorem gen_ta_pin_facts_ok :
    Nri.Gen.TAPin.applyGrantCpus = Expectgen_ta_pin_facts_ok.applyGrantCpus ∧
    Nri.Gen.TAPin.updateShared = Expectgen_ta_pin_facts_ok.updateShared ∧
    Nri.Gen.TAPin.setPreferred = Expectgen_ta_pin_facts_ok.setPreferred ∧
    Nri.Gen.TAPin.grantSharedCPUs = Expectgen_ta_pin_facts_ok.grantSharedCPUs ∧
    Nri.Gen.TAPin.grantReservedCPUs = Expectgen_ta_pin_facts_ok.grantReservedCPUs ∧
    Nri.Gen.TAPin.grantExclusiveCPUs = Expectgen_ta_pin_facts_ok.grantExclusiveCPUs ∧
    Nri.Gen.TAPin.grantSharedPortion = Expectgen_ta_pin_facts_ok.grantSharedPortion := by
  and_intros <;> rfl

end Nri.TA
