import Nri.Proofs.LibMemFit
import Nri.Proofs.LibMemStrict
import Nri.Props.C06
/-!
C07 — placement rules, for every node table, request list and history of
Allocate / GetOffer / Realloc / Release from the empty allocator:

* `step_placement`, `run_placement`, `realloc_never_shrinks` — existing allocations are only
  ever moved to supersets, reservations are never moved, every assigned zone contains normal
  memory, re-allocation never removes nodes;
* `allocate_updates_exact`, `realloc_updates_exact` — the reported updates are exactly the
  requests whose assignment changed, with their new zones;
* `step_fits`, `run_fits` — every ASSIGNED zone holds no more than its capacity
  (the two facts behind it, `handleOvercommit_ok_fits` and `usageL_map_le`, are also stated on
  their own: `handled_zones_fit`, `move_to_superset_usage_le`);
* `every_set_fits_refuted` — the capacity clause read literally ("every node set with
  allocations confined to it") is false of the model and of the code: a 3-node witness
  (known finding, class `C07:union-overcommit`);
* `run_strict`, `run_strict_ghost` — strict type preference over histories;
* `reservations_not_eligible` — obligation over the regenerated priority list;
* `commit_fresh_keeps_placement` — a committed fresh offer obeys the same rules.
The per-operation facts are in `Proofs/LibMemTrack`, `LibMemUpd`, `LibMemFit`, `LibMemStrict`;
here they are put together over `step_outcome` (an operation restores the state or goes through).
-/
namespace Nri.LibMem

/-- Moving a request to a superset of its current (non-empty) nodes never increases the usage
of any node set, provided sizes are non-negative. -/
theorem move_to_superset_usage_le (s : St) (id : String) (z' : Mask)
    (hsize : ∀ r ∈ s.reqs, 0 ≤ r.size)
    (hsup : ∀ r ∈ s.reqs, r.id = id → r.zone ≠ 0 ∧ msub r.zone z' = true) (S : Mask) :
    (s.setZone id z').zoneUsage S ≤ s.zoneUsage S := by
  refine usageL_map_le s.reqs (setz id z') S (fun q hq => ⟨by unfold setz; split <;> rfl, hsize q hq⟩) fun q hq hc => ?_
  by_cases e : q.id = id
  · rw [setz_of_eq z' e] at hc
    exact ⟨(hsup q hq e).1, msub_trans (hsup q hq e).2 hc.2⟩
  · rwa [setz_of_ne z' e] at hc

/-- … hence free memory of every node set can only grow when an existing allocation is moved
to a superset zone. -/
theorem move_to_superset_free_ge (s : St) (id : String) (z' : Mask)
    (hsize : ∀ r ∈ s.reqs, 0 ≤ r.size)
    (hsup : ∀ r ∈ s.reqs, r.id = id → r.zone ≠ 0 ∧ msub r.zone z' = true) (S : Mask) :
    s.zoneFree S ≤ (s.setZone id z').zoneFree S :=
  Int.sub_le_sub_left (move_to_superset_usage_le s id z' hsize hsup S) _

/-- **Fit of the handled zones.** When overcommit handling for `nodes` succeeds, every zone in
the allocator's zone table that intersects `nodes` holds no more than its capacity (proof:
`Proofs/LibMemOvercommit`, through every loop of the resolution). -/
theorem handled_zones_fit (s : St) (nodes : Mask) (h : (s.handleOvercommit nodes).2 = none) :
    ∀ z ∈ (s.handleOvercommit nodes).1.entries, (nodes = 0 ∨ z &&& nodes ≠ 0) →
      0 ≤ (s.handleOvercommit nodes).1.zoneFree z :=
  handleOvercommit_ok_fits s nodes h

/-! ### the literal capacity clause is false (known finding) -/

def witnessNodes : List Node :=
  [{ id := 0, typ := 0, cap := 100, normal := true, dist := [10, 21, 21] },
   { id := 1, typ := 0, cap := 100, normal := true, dist := [21, 10, 21] },
   { id := 2, typ := 0, cap := 100, normal := true, dist := [21, 21, 10] }]
def witnessA : Req := { id := "A", size := 200, aff := 3, types := 0, strict := false, prio := 1024, created := 1 }
def witnessB : Req := { id := "B", size := 200, aff := 6, types := 0, strict := false, prio := 1024, created := 2 }
def witnessFinal : St := (({ nodes := witnessNodes } : St).Allocate witnessA).1.Allocate witnessB |>.1

/-- Both allocations are admitted, each confined to a 2-node set at that set's full capacity;
the 3-node set they are confined to together is oversubscribed by 100. -/
theorem every_set_fits_refuted :
    (({ nodes := witnessNodes } : St).Allocate witnessA).2 = .ok ⟨3, []⟩ ∧
    ((({ nodes := witnessNodes } : St).Allocate witnessA).1.Allocate witnessB).2 = .ok ⟨6, []⟩ ∧
    witnessFinal.zoneFree 7 = -100 ∧
    (∀ r ∈ witnessFinal.reqs, msub r.zone 7 = true) := by
  refine ⟨by rfl, by rfl, by rfl, by decide⟩

/-- every priority the overcommit handler may move is strictly below `Reservation` (32767). -/
theorem reservations_not_eligible : ∀ p ∈ Nri.Gen.LibMem.allowedPrios, p < 32767 := by decide

/-! ### histories: monotone moves, immovable reservations, normal memory, re-allocation keeps nodes

`Commit` is not an operation of these histories (an offer object is caller-held data; the model's
`Commit` replays whatever it is given); it is covered by `commit_fresh_keeps_placement` and, for
late commits, by `late_commit_refused_or_as_fresh`. -/

/-- the history invariant: no transaction open, unique ids, every request placed on a zone
that contains a node with normal (non-movable) memory. -/
structure HInv (s : St) : Prop where
  wf : WF s
  placed : Placed s

theorem hinv_init (nodes : List Node) : HInv { nodes := nodes } :=
  ⟨⟨rfl, List.nodup_nil⟩, fun _ hq => nomatch hq⟩

/-- one operation, whatever its outcome: the invariant is kept, every request that is still
there has all the nodes it had (**existing allocations are only ever moved to supersets**;
for the re-allocated request: **re-allocation never removes nodes**), and a request of
Reservation priority other than the one being re-allocated keeps exactly its zone
(**reservations are never moved**). -/
theorem step_placement (s : St) (h : HInv s) (op : Op) :
    HInv (s.step op) ∧
    (∀ q ∈ (s.step op).reqs, msub (zoneIn s q.id) q.zone = true) ∧
    (∀ q ∈ (s.step op).reqs, 32766 < q.prio → (∀ id n t, op = .realloc id n t → q.id ≠ id) →
        (s.req? q.id).isSome → q.zone = zoneIn s q.id) := by
  -- where the surviving requests are requests of `s`, nothing moved
  have sub : ∀ s' : St, WF s' → (∀ q ∈ s'.reqs, q ∈ s.reqs) → s'.nodes = s.nodes →
      HInv s' ∧ (∀ q ∈ s'.reqs, msub (zoneIn s q.id) q.zone = true) ∧
      (∀ q ∈ s'.reqs, 32766 < q.prio → (∀ id n t, op = .realloc id n t → q.id ≠ id) →
        (s.req? q.id).isSome → q.zone = zoneIn s q.id) :=
    fun s' hw' hsub hn => ⟨⟨hw', fun q hq => normalMask_of_nodes s s' hn ▸ h.placed q (hsub q hq)⟩,
      fun q hq => by rw [zoneIn_of_mem s h.wf.ids q (hsub q hq)]; exact msub_refl _,
      fun q hq _ _ _ => (zoneIn_of_mem s h.wf.ids q (hsub q hq)).symm⟩
  rcases step_outcome s h.wf op with hr | ⟨⟨hw', _, hn'⟩, ⟨r, r', rfl, ha⟩ | ⟨r, nodes, types, _, _, _, _, rfl, ha⟩ | ⟨id, rfl, hres⟩⟩
  · exact sub _ (hr.wf h.wf) (fun q hq => hr.reqs ▸ hq) hr.nodes
  · have ht := ha.track h.wf h.placed
    -- the new request was unknown before
    exact ⟨⟨hw', ht.normal⟩, ht.mono, fun q hq hp _ hsome => ht.resv q hq hp fun e => by
      rw [e, ← ha.valid.id, ha.valid.new] at hsome; cases hsome⟩
  · have ht := ha.track h.wf h.placed
    exact ⟨⟨hw', ht.normal⟩, ht.mono, fun q hq hp hne _ => ht.resv q hq hp (hne r.id nodes types rfl)⟩
  · exact sub _ hw' (fun q hq => (List.mem_filter.1 (hres.2.1 ▸ hq)).1) hn'

/-- **every history**: the invariant holds after any sequence of operations from the empty
allocator - in particular every assigned zone always contains a node with normal memory. -/
theorem run_placement (nodes : List Node) (ops : List Op) : HInv (St.run { nodes := nodes } ops) :=
  List.foldlRecOn ops St.step (hinv_init nodes) fun a h x _ => (step_placement a h x).1

-- non-vacuity: a 2-node allocator, a reservation and a burstable request; the second allocation
-- moves the burstable one to the wider zone, the reservation stays
example : (St.run { nodes := exampleSt.nodes }
    [.allocate { id := "res", size := 60, aff := 1, types := 0, strict := false, prio := 32767, created := 1 },
     .allocate { id := "b", size := 30, aff := 1, types := 0, strict := false, prio := 1024, created := 2 },
     .allocate { id := "g", size := 30, aff := 1, types := 0, strict := false, prio := 16384, created := 3 }]).reqs.map (fun q => (q.id, q.zone))
    = [("res", 1), ("b", 3), ("g", 1)] := by rfl

/-- **re-allocation never removes nodes**: after a successful `Realloc` the re-allocated request
holds every node it held before. -/
theorem realloc_never_shrinks (s : St) (h : HInv s) (id : String) (nodes : Mask) (types : Nat) (res : Result)
    (hok : (s.Realloc id nodes types).2 = .ok res) :
    ∀ q ∈ (s.Realloc id nodes types).1.reqs, q.id = id → msub (zoneIn s id) q.zone = true := by
  rcases Realloc_ok_view s h.wf id nodes types res hok with ⟨_, _, heq, _⟩ | ⟨r, _, _, _, _, rfl, ha⟩
  · rw [heq]; exact fun q hq e => e ▸ zoneIn_of_mem s h.wf.ids q hq ▸ msub_refl _
  · exact fun q hq e => e ▸ (ha.track h.wf h.placed).mono q hq

/-- **exact updates**: the update map a successful `Allocate` returns maps `id` to `z` exactly when
`id` is another request whose zone is now `z` and was something else before. -/
theorem allocate_updates_exact (s : St) (h : HInv s) (r : Req) (res : Result)
    (hok : (s.Allocate r).2 = .ok res) (id : String) (z : Mask) :
    alGet res.updates id = some z ↔
      (id ≠ r.id ∧ ∃ q ∈ (s.Allocate r).1.reqs, q.id = id ∧ q.zone = z ∧ z ≠ zoneIn s id) := by
  obtain ⟨r', ha⟩ := Allocate_ok_view s h.wf r res hok
  have hu := ha.valid.upd h.wf
  rw [ha.state, ha.updates hok]
  simp only [alGet_alErase, committed_reqs, ← ha.valid.id, ← zoneIn_withNew s r']
  constructor
  · intro hg
    split at hg
    · cases hg
    · rename_i e; exact ⟨e, hu.sound id z hg⟩
  · rintro ⟨hne, q, hq, rfl, rfl, hzne⟩
    rw [if_neg hne]; exact hu.complete q hq hzne

/-- **exact updates (Realloc)**: likewise for a successful `Realloc` (a no-op re-allocation reports
nothing). -/
theorem realloc_updates_exact (s : St) (h : HInv s) (id : String) (nodes : Mask) (types : Nat) (res : Result)
    (hok : (s.Realloc id nodes types).2 = .ok res) (id' : String) (z : Mask) :
    alGet res.updates id' = some z ↔
      (id' ≠ id ∧ ∃ q ∈ (s.Realloc id nodes types).1.reqs, q.id = id' ∧ q.zone = z ∧ z ≠ zoneIn s id') := by
  rcases Realloc_ok_view s h.wf id nodes types res hok with ⟨r, _, heq, hres⟩ | ⟨r, n1, t1, nn, nt, rfl, ha⟩
  · -- a no-op reports nothing, and nothing moved
    rw [heq]
    cases hres.symm.trans hok
    exact ⟨(fun hg => nomatch hg), fun ⟨_, q, hq, hqid, hqz, hzne⟩ => absurd (hqid ▸ hqz ▸ (zoneIn_of_mem s h.wf.ids q hq).symm) hzne⟩
  · have hu := ha.upd h.wf
    rw [ha.state, ha.updates hok]
    simp only [alGet_alErase, recorded_reqs, List.mem_map]
    constructor
    · intro hg
      split at hg
      · cases hg
      · rename_i e
        obtain ⟨q, hq, hqid, hqz, hzne⟩ := hu.sound id' z hg
        exact ⟨e, _, ⟨q, hq, rfl⟩, by simpa using hqid, by simpa using hqz, hzne⟩
    · rintro ⟨hne, _, ⟨q, hq, rfl⟩, hqid, hqz, hzne⟩
      rw [if_neg hne]
      simp only [addTypes_id, addTypes_zone] at hqid hqz
      subst hqid hqz
      exact hu.complete q hq hzne

/-! ### histories: every assigned zone fits, after every operation

The capacity clause for the zones that ARE assignments (the literal clause over all node sets is
the known finding `every_set_fits_refuted`): by induction over arbitrary histories, not only
for the zones handled in the last operation. -/

/-- the request sizes of an operation are non-negative (the policies pass a container's memory
limit; `NewRequest` itself does not look at the sign) -/
def Op.sizeOk : Op → Prop
  | .allocate r => 0 ≤ r.size
  | _ => True

structure HFit (s : St) : Prop where
  inv : HInv s
  sizes : Sizes s
  ent : Ent s          -- the zone table contains every assigned zone
  fit : FitInv s       -- every assigned zone holds no more than its capacity

theorem fit_of_reqs_eq (s s' : St) (h : FitInv s) (hr : s'.reqs = s.reqs) (hn : s'.nodes = s.nodes) : FitInv s' :=
  fun q hq hz => (usage_of_reqs s s' hr hn _).2 ▸ h q (hr ▸ hq) hz

theorem hfit_init (nodes : List Node) : HFit { nodes := nodes } :=
  ⟨hinv_init nodes, (fun _ hq => nomatch hq), (fun _ hq => nomatch hq), fun _ hq => nomatch hq⟩

theorem step_fits (s : St) (h : HFit s) (op : Op) (hop : op.sizeOk) : HFit (s.step op) := by
  suffices Sizes (s.step op) ∧ Ent (s.step op) ∧ FitInv (s.step op) from
    ⟨(step_placement s h.inv op).1, this.1, this.2.1, this.2.2⟩
  rcases step_outcome s h.inv.wf op with hr | ⟨⟨_, _, hn⟩, ⟨r, r', rfl, ha⟩ | ⟨r, nodes, types, _, _, _, _, rfl, ha⟩ | ⟨id, rfl, _, hreqs, hent⟩⟩
  · exact ⟨fun q hq => h.sizes q (hr.reqs ▸ hq), hr.ent h.ent, fit_of_reqs_eq s _ h.fit hr.reqs hr.nodes⟩
  · exact ha.fit h.inv.wf h.sizes h.ent h.fit hop
  · exact ha.fit h.inv.wf h.sizes h.ent h.fit
  · exact ⟨fun q hq => h.sizes q (List.mem_filter.1 (hreqs ▸ hq)).1, hent h.ent, fitInv_filter s _ _ hreqs hn h.sizes h.fit⟩

/-- **every history** of Allocate / GetOffer / Realloc / Release with non-negative sizes, on every
node set and distance matrix: after every operation every assigned zone holds no more than its
capacity (and the placement invariant of `run_placement` holds). -/
theorem run_fits (nodes : List Node) (ops : List Op) (hops : ∀ op ∈ ops, op.sizeOk) :
    HFit (St.run { nodes := nodes } ops) :=
  List.foldlRecOn ops St.step (hfit_init nodes) fun a h x hx => step_fits a h x (hops x hx)

-- non-vacuity: the 3-allocation history above satisfies the hypotheses; zone {0} is full afterwards
example : (St.run { nodes := exampleSt.nodes }
    [.allocate { id := "res", size := 60, aff := 1, types := 0, strict := false, prio := 32767, created := 1 },
     .allocate { id := "b", size := 30, aff := 1, types := 0, strict := false, prio := 1024, created := 2 },
     .allocate { id := "g", size := 30, aff := 1, types := 0, strict := false, prio := 16384, created := 3 }]).zoneFree 1 = 10 := by rfl

/-! ### histories: strict type preference

"A request with strict type preference is assigned only nodes of the requested types".  With the
ghost record of the types that re-allocations named (`ghostRun`; "requested types" of a request =
its `types` field ∪ that record - the reading fixed in DESIGN §6.0) the invariant `StrictInvG`
holds over EVERY history.  Without the record (`StrictInv`, the `types` field alone - the validated
creation types extended by the types re-allocations found) it holds over the histories in which
no STRICT request is re-allocated: such a re-allocation names further types that the field does
not record. -/

theorem step_strict_ghost (G : String → Nat) (s : St) (hw : WF s) (h : SUG G s) (op : Op) :
    SUG (ghostStep G s op) (s.step op) := by
  have restored : ∀ s', Restored s s' → SUG G s' := fun s' hr => sug_of_reqs_eq G s s' h hr.reqs hr.nodes
  -- `ghostStep` looks at the operation and its result, so this goes operation by operation
  cases op with
  | allocate r =>
    rcases Allocate_view s hw r with ⟨_, _, hr⟩ | ⟨_, ha⟩
    · exact restored _ hr
    · exact ha.sug G hw h
  | getOffer r => exact restored _ (GetOffer_view s hw r).1
  | realloc id nodes types =>
    simp only [ghostStep, step_realloc]
    rcases Realloc_view s hw id nodes types with ⟨_, he, hr⟩ | ⟨_, _, heq, hres⟩ | ⟨_, _, _, _, _, rfl, ha⟩
    · rw [he]; exact restored _ hr
    · rw [hres, heq]; exact sug_mono G _ s h (ghostAdd_le G id _)
    · rw [ha.result, ha.reallocTypes hw]; exact ha.sug G hw h
  | release id =>
    simp only [ghostStep, step_release]
    rcases Release_view s id with ⟨_, heq, he⟩ | ⟨_, _, _, heq, he⟩ | ⟨_, _, _, he, heq⟩ <;> rw [heq, he]
    · exact h
    · exact h
    · -- the released id is gone, so forgetting its record harms nobody
      refine ⟨h.1, fun q hq hs => ?_⟩
      obtain ⟨hq1, hq2⟩ := List.mem_filter.1 hq
      have hne : q.id ≠ id := by simpa using hq2
      show msub (s.zoneType q.zone) _ = true
      simpa [hne] using h.2 q hq1 hs

/-- **strict types over every history**: on a node table with unique ids, after EVERY history of
Allocate / GetOffer / Realloc / Release, every request with strict type preference is assigned only
nodes whose types are among its requested types - the types it was created with (as validated),
those re-allocations found, and those its re-allocations named. -/
theorem run_strict_ghost (nodes : List Node) (hu : NodesUniq { nodes := nodes }) (ops : List Op) :
    StrictInvG (ghostRun (fun _ => 0) { nodes := nodes } ops) (St.run { nodes := nodes } ops) := by
  have key : ∀ (ops : List Op) (G : String → Nat) (s : St), WF s → SUG G s → SUG (ghostRun G s ops) (s.run ops) := by
    intro ops
    induction ops with
    | nil => intro G s _ h; exact h
    | cons op ops ih => exact fun G s hw h => ih _ (s.step op) (step_wf s hw op) (step_strict_ghost G s hw h op)
  exact (key ops _ _ (hinv_init nodes).wf ⟨hu, fun _ hq => nomatch hq⟩).2

/-- the operation does not re-allocate a strict request -/
def Op.reallocTargetsNonStrict (s : St) : Op → Prop
  | .realloc id _ _ => ∀ q, s.req? id = some q → q.strict = false
  | _ => True

/-- a history in which no strict request is re-allocated -/
def StrictSafe : St → List Op → Prop
  | _, [] => True
  | s, op :: ops => op.reallocTargetsNonStrict s ∧ StrictSafe (s.step op) ops

/-- what is and is not covered for re-allocations without the ghost record: a successful
`Realloc` of a non-strict request keeps the invariant for all strict requests (its own record is
the only one that grows, and it is not strict). -/
theorem realloc_strict_partial (s : St) (hw : WF s) (h : SU s) (id : String) (nodes : Mask) (types : Nat) (res : Result)
    (hok : (s.Realloc id nodes types).2 = .ok res) (hns : ∀ q, s.req? id = some q → q.strict = false) :
    StrictInv (s.Realloc id nodes types).1 := by
  rcases Realloc_ok_view s hw id nodes types res hok with ⟨_, _, heq, _⟩ | ⟨r, n1, _, nn, nt, rfl, ha⟩
  · rw [heq]; exact h.2
  · -- the move of a request that is not strict carries no obligation, and recording types only enlarges `types`
    have hns' : r.strict = false := hns r (req?_of_mem s hw.ids r ha.mem)
    rw [ha.state]
    exact ((su_iff_sug _).2 (sug_recorded _ _ r.id nt
      (txn_sug _ (ha.txn hw) ((su_iff_sug s).1 h) fun hs => absurd hs (by simp [hns'])))).2

theorem step_strict (s : St) (hw : WF s) (h : SU s) (op : Op) (hop : op.reallocTargetsNonStrict s) :
    SU (s.step op) := by
  have hg := (su_iff_sug s).1 h
  rcases step_outcome s hw op with hr | ⟨⟨_, _, hn⟩, ⟨r, _, rfl, ha⟩ | ⟨r, n, t, _, _, _, _, rfl, ha⟩ | ⟨id, rfl, hres⟩⟩
  · exact (su_iff_sug _).2 (sug_of_reqs_eq _ s _ hg hr.reqs hr.nodes)
  · exact (su_iff_sug _).2 (ha.sug _ hw hg)
  · exact ⟨nodesUniq_of_nodes s _ hn h.1, realloc_strict_partial s hw h r.id n t _ ha.result hop⟩
  · exact ⟨nodesUniq_of_nodes s _ hn h.1, fun q hq hs =>
      zoneType_nodes s _ hn _ ▸ h.2 q (List.mem_filter.1 (hres.2.1 ▸ hq)).1 hs⟩

/-- **strict types over histories**: on a node table with unique ids, after every history of
Allocate / GetOffer / Realloc / Release in which no strict request is re-allocated, every request
with strict type preference is assigned only nodes whose types are among its requested types. -/
theorem run_strict (nodes : List Node) (hu : NodesUniq { nodes := nodes }) (ops : List Op)
    (hsafe : StrictSafe { nodes := nodes } ops) : StrictInv (St.run { nodes := nodes } ops) := by
  have key : ∀ (ops : List Op) (s : St), WF s → SU s → StrictSafe s ops → SU (s.run ops) := by
    intro ops
    induction ops with
    | nil => intro s _ h _; exact h
    | cons op ops ih => exact fun s hw h hs => ih (s.step op) (step_wf s hw op) (step_strict s hw h op hs.1) hs.2
  exact (key ops _ (hinv_init nodes).wf ⟨hu, fun _ hq => nomatch hq⟩ hsafe).2

-- non-vacuity: a strict DRAM request on a DRAM+PMEM machine, under pressure, stays on DRAM
example :
    let nodes : List Node := [{ id := 0, typ := 0, cap := 100, normal := true, dist := [10, 21] },
                              { id := 1, typ := 1, cap := 100, normal := true, dist := [21, 10] }]
    (St.run { nodes := nodes }
      [.allocate { id := "s", size := 60, aff := 1, types := 1, strict := true, prio := 1024, created := 1 },
       .allocate { id := "b", size := 60, aff := 1, types := 0, strict := false, prio := 1024, created := 2 }]).reqs.map
        (fun q => (q.id, q.zone, q.strict)) = [("s", 1, true), ("b", 3, false)] := by rfl

/-! ### committing a fresh offer keeps the placement rules -/

/-- **a committed fresh offer obeys the placement rules**: since it leaves exactly the assignments
of a direct `Allocate`, every assigned zone afterwards contains normal memory and holds no more
than its capacity, exactly as after `Allocate`. -/
theorem commit_fresh_keeps_placement (s : St) (h : HFit s) (r : Req) (hr : 0 ≤ r.size) (o : Offer)
    (hoff : (s.GetOffer r).2 = .ok o) :
    Placed ((s.GetOffer r).1.Commit o).1 ∧ FitInv ((s.GetOffer r).1.Commit o).1 := by
  have hreqs := (commit_fresh_eq_allocate s h.inv.wf h.inv.placed r o hoff).2
  have hA : HFit (s.Allocate r).1 := step_fits s h (.allocate r) hr
  have hn : ((s.GetOffer r).1.Commit o).1.nodes = (s.Allocate r).1.nodes :=
    (Commit_nodes _ o).trans ((step_nodes s h.inv.wf (.getOffer r)).trans (step_nodes s h.inv.wf (.allocate r)).symm)
  exact ⟨placed_of_reqs_eq (s.Allocate r).1 _ hA.inv.placed hreqs hn, fit_of_reqs_eq (s.Allocate r).1 _ hA.fit hreqs hn⟩

end Nri.LibMem
