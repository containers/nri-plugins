import Nri.Model.TopoAware
import Nri.Gen.ReconfigFacts
import Nri.Props.C05
import Nri.Proofs.TopoAware
import Nri.Props.C09
import Nri.Gen.TAFacts
/-!
C13 — a re-applied unchanged configuration is a no-op (topology-aware half).

Re-configuration rebuilds the pools and re-instates every saved grant (`grant.Clone`,
`supply.Reserve`) and re-applies it to its container.  Proved here:

* `ledger_*`: as long as no container is granted twice (`ledger_alloc`'s `hfresh`), each pool's granted
  counters are exactly the sums of the portions of the live grants assigned to it;
* `reinstate_counters` / `reapply_same_counters`: rebuilding the counters from the saved grants
  therefore reproduces the live counters exactly - for every pool tree and history.  (This is the
  statement the code violated before fix 26048ef: `Clone` dropped the portion of reserved grants,
  the regenerated facts `cloneKeepsPortion` / `reserveAccountsReservedPortion` pin the repaired code.)
* `rewrite_same_idempotent` (C05): re-writing a value the runtime already has changes nothing there.

Equality of the CPU sets, memory zones and every container's cgroup parameters before and after
a re-applied configuration is checked on every history of the correspondence run
(`C13:unchanged-config-changed-resources`), not proved.

`Props/C05` and `Props/C09` are imported for the check's sake: it builds this file's import cone, and the
regenerated-fact obligations in C01, C05, C06 and C07 guard the models these theorems speak of.
-/
namespace Nri.TA

theorem gen_portion_facts_ok :
    Nri.Gen.TA.cloneKeepsPortion = true ∧ Nri.Gen.TA.reserveAccountsReservedPortion = true := by decide

def sumSh : List Grant → Nat → Int
  | [], _ => 0
  | g :: gs, j => (if g.pool == j then sharedPortion g else 0) + sumSh gs j
def sumRs : List Grant → Nat → Int
  | [], _ => 0
  | g :: gs, j => (if g.pool == j then reservedPortion g else 0) + sumRs gs j

/-- the ledger: counters are the sums of the live grants' portions, one grant per container -/
def Ledger (t : TA) : Prop :=
  (t.grants.map (·.ctr)).Nodup ∧ ∀ j, (t.pools j).grantedShared = sumSh t.grants j ∧ (t.pools j).grantedReserved = sumRs t.grants j

theorem sum_append (a : List Grant) (g : Grant) (j : Nat) :
    sumSh (a ++ [g]) j = sumSh a j + (if g.pool == j then sharedPortion g else 0) ∧
    sumRs (a ++ [g]) j = sumRs a j + (if g.pool == j then reservedPortion g else 0) := by
  induction a with
  | nil => simp [sumSh, sumRs]
  | cons h t ih =>
    simp only [List.cons_append, sumSh, sumRs, ih]
    exact ⟨(Int.add_assoc ..).symm, (Int.add_assoc ..).symm⟩

/-- dropping the one grant of a container takes its portions out of the sums -/
theorem sum_filter (gs : List Grant) (g : Grant) (hn : (gs.map (·.ctr)).Nodup) (hm : g ∈ gs) (j : Nat) :
    sumSh (gs.filter (·.ctr != g.ctr)) j = sumSh gs j - (if g.pool == j then sharedPortion g else 0) ∧
    sumRs (gs.filter (·.ctr != g.ctr)) j = sumRs gs j - (if g.pool == j then reservedPortion g else 0) := by
  induction gs with
  | nil => cases hm
  | cons x xs ih =>
    obtain ⟨hx, hn⟩ := List.nodup_cons.1 hn
    by_cases hxg : x = g
    · -- the rest of the list holds no grant of this container, so the filter keeps all of it
      subst hxg
      have hrest : xs.filter (·.ctr != x.ctr) = xs :=
        List.filter_eq_self.2 fun a ha => by simpa using fun e => hx (List.mem_map.2 ⟨a, ha, e⟩)
      simp only [List.filter_cons, bne_self_eq_false, Bool.false_eq_true, if_false, hrest, sumSh, sumRs]
      omega
    · have hm' : g ∈ xs := (List.mem_cons.1 hm).resolve_left (Ne.symm hxg)
      have hf : (x.ctr != g.ctr) = true := by
        simpa using fun e => hx (List.mem_map.2 ⟨g, hm', Eq.symm e⟩)
      simp only [List.filter_cons, hf, if_true, sumSh, sumRs, ih hn hm']
      exact ⟨(Int.add_sub_assoc ..).symm, (Int.add_sub_assoc ..).symm⟩

theorem initTA_counters (tree : List PoolT) (j : Nat) :
    ((initTA tree).pools j).grantedShared = 0 ∧ ((initTA tree).pools j).grantedReserved = 0 := by
  simp only [initTA]
  split <;> exact ⟨rfl, rfl⟩

theorem ledger_init (tree : List PoolT) : Ledger (initTA tree) :=
  ⟨List.nodup_nil, initTA_counters tree⟩

/-- allocation for a container that holds no grant keeps the ledger -/
theorem ledger_alloc (t t' : TA) (ctr : String) (i full fraction : Nat) (isolate : Bool)
    (ct : CpuType) (excl : List Nat) (g : Grant) (hl : Ledger t) (hfresh : ctr ∉ t.grants.map (·.ctr))
    (h : alloc t ctr i full fraction isolate ct excl = .ok (t', g)) : Ledger (addGrant t' g) := by
  obtain ⟨_, _, hgr, hgc, _, _⟩ := alloc_frame h
  have e : (addGrant t' g).grants = t.grants ++ [g] := by rw [← hgr]; rfl
  refine ⟨?_, fun j => ?_⟩
  · rw [e, List.map_append]
    exact nodup_concat hl.1 (by rwa [← hgc] at hfresh)
  · obtain ⟨c1, c2⟩ := alloc_counters h j
    rw [e, (sum_append ..).1, (sum_append ..).2, ← (hl.2 j).1, ← (hl.2 j).2]
    exact ⟨c1, c2⟩

/-- releasing a live grant keeps the ledger -/
theorem ledger_release (t : TA) (g : Grant) (hl : Ledger t) (hm : g ∈ t.grants) (hp : g.pool < t.tree.length) :
    Ledger (dropGrant (release t g) g.ctr) := by
  have e : (dropGrant (release t g) g.ctr).grants = t.grants.filter (·.ctr != g.ctr) := by
    rw [← release_grants t g]; rfl
  refine ⟨?_, fun j => ?_⟩
  · rw [e]
    exact (List.Sublist.map _ List.filter_sublist).nodup hl.1
  · obtain ⟨r1, r2⟩ := release_counters t g hp j
    obtain ⟨s1, s2⟩ := sum_filter t.grants g hl.1 hm j
    rw [e, s1, s2, ← (hl.2 j).1, ← (hl.2 j).2]
    exact ⟨r1, r2⟩

/-- re-instating saved grants on freshly built pools (`reinstateGrants`: Clone + Reserve), counters only -/
def reinstateFrom (t0 : TA) (gs : List Grant) : TA :=
  gs.foldl (fun t g => addGrant (setPool t g.pool fun q =>
    { q with grantedShared := q.grantedShared + sharedPortion g, grantedReserved := q.grantedReserved + reservedPortion g }) g) t0

def reinstate (tree : List PoolT) (gs : List Grant) : TA := reinstateFrom (initTA tree) gs

theorem reinstateFrom_counters (gs : List Grant) : ∀ (t0 : TA) (j : Nat),
    ((reinstateFrom t0 gs).pools j).grantedShared = (t0.pools j).grantedShared + sumSh gs j ∧
    ((reinstateFrom t0 gs).pools j).grantedReserved = (t0.pools j).grantedReserved + sumRs gs j := by
  induction gs with
  | nil => intro t0 j; simp [reinstateFrom, sumSh, sumRs]
  | cons g gs ih =>
    intro t0 j
    obtain ⟨b1, b2⟩ := book_counters t0 g.pool (sharedPortion g) (reservedPortion g) j
    show ((reinstateFrom _ gs).pools j).grantedShared = _ ∧ ((reinstateFrom _ gs).pools j).grantedReserved = _
    rw [(ih _ j).1, (ih _ j).2]
    simp only [addGrant, sumSh, sumRs]
    rw [b1, b2]
    exact ⟨Int.add_assoc .., Int.add_assoc ..⟩

theorem reinstate_counters (tree : List PoolT) (gs : List Grant) (j : Nat) :
    ((reinstate tree gs).pools j).grantedShared = sumSh gs j ∧ ((reinstate tree gs).pools j).grantedReserved = sumRs gs j := by
  obtain ⟨a, b⟩ := reinstateFrom_counters gs (initTA tree) j
  obtain ⟨z1, z2⟩ := initTA_counters tree j
  rw [reinstate, a, b, z1, z2]
  exact ⟨Int.zero_add _, Int.zero_add _⟩

/-- **Idempotence of re-configuration at the ledger.** In every state satisfying the ledger
(every state reached through `ledger_init/alloc/release`), rebuilding the pools and re-instating
the live grants reproduces every pool's counters exactly. -/
theorem reapply_same_counters (t : TA) (hl : Ledger t) : SameCounters (reinstate t.tree t.grants) t := by
  intro j
  obtain ⟨a, b⟩ := reinstate_counters t.tree t.grants j
  rw [a, b, (hl.2 j).1, (hl.2 j).2]
  exact ⟨rfl, rfl⟩

/-- the pre-26048ef behaviour, as a model variant: a clone that forgets the reserved portion
does NOT reproduce the counters (witness: one reserved grant of 500 mCPU) -/
theorem lossy_clone_refuted :
    let g : Grant := ⟨"c", 0, .reserved, [], 500⟩
    let lossy : Grant := { g with portion := 0 }
    ((reinstate [⟨none, [], [0,1], [0]⟩] [lossy]).pools 0).grantedReserved ≠
    ((reinstate [⟨none, [], [0,1], [0]⟩] [g]).pools 0).grantedReserved := by decide

-- non-vacuity: the ledger holds of a one-pool state with a reserved and a shared grant, re-instated
example : Ledger (reinstate [⟨none, [], [0,1], [0]⟩] [⟨"a", 0, .reserved, [], 500⟩, ⟨"b", 0, .normal, [], 250⟩]) :=
  ⟨by decide, reinstate_counters _ _⟩

end Nri.TA

/-! ### source shapes the model was written against (ReconfigFacts.lean; the regenerated facts must equal them) -/
namespace Nri.TA.Expectgen_reconfig_facts_ok
def resmgrReconfigure : List String := ["apply := func", "> if err := instrumentation.Reconfigure(&mCfg.Instrumentation); err != nil", "> > return err", "> err := m.policy.Reconfigure(cfg.PolicyConfig())", "> if err != nil", "> > return err", "> err = m.nri.updateContainers()", "> return nil", "m.Lock()", "err := apply(cfg)", "if err == nil", "> m.cfg = cfg", "> return nil", "revertErr := apply(m.cfg)", "if revertErr != nil", "return err"]
def taReconfigure : List String := ["if !ok", "> return policyError(…)", "savedPolicy := *p", "allocations := savedPolicy.allocations.clone()", "opt = cfg", "p.cfg = cfg", "defaultPrio = cfg.DefaultCPUPriority.Value()", "if err := p.initialize(); err != nil", "> *p = savedPolicy", "> return policyError(…)", "if err := p.registerImplicitAffinities(); err != nil", "> return policyError(…)", "range allocations.grants", "> if err := grant.RefetchNodes(); err != nil", "> > *p = savedPolicy", "> > opt = p.cfg", "> > defaultPrio = p.cfg.DefaultCPUPriority.Value()", "> > return policyError(…)", "if err := p.restoreAllocations(&allocations); err != nil", "> *p = savedPolicy", "> opt = p.cfg", "> return policyError(…)", "return nil"]
def balloonsReconfigure : List String := ["if !ok", "> return balloonsError(…)", "if !changesBalloons(p.cfgoptions, newBalloonsOptions)", "> if !changesCpuClasses(p.cfgoptions, newBalloonsOptions)", "> else", "> > p.bpoptions.IdleCpuClass = newBalloonsOptions.IdleCpuClass", "> > if err := p.resetCpuClass(); err != nil", "> > range p.balloons", "> return nil", "if err := p.setConfig(newBalloonsOptions); err != nil", "> return err", "range p.cch.GetContainers()", "if err := p.Sync(live, p.cch.GetContainers()); err != nil", "return nil"]
end Nri.TA.Expectgen_reconfig_facts_ok

namespace Nri.TA

/-- the regenerated skeletons of the re-configuration paths are the ones the analysis of C13 was made against: the resource manager applies the new configuration, keeps it on success and otherwise RE-APPLIES the configuration in force (apply(m.cfg)) - so a policy's Reconfigure must be able to undo a half-applied update when called with the old configuration; the topology-aware Reconfigure sets the package-level options BEFORE validating and restores *p (and, on the later paths, opt) on failure; the balloons Reconfigure returns early only when neither balloons nor CPU classes change and otherwise goes through the transactional setConfig -/
theorem gen_reconfig_facts_ok :
    Nri.Gen.Reconfig.resmgrReconfigure = Expectgen_reconfig_facts_ok.resmgrReconfigure ∧
    Nri.Gen.Reconfig.taReconfigure = Expectgen_reconfig_facts_ok.taReconfigure ∧
    Nri.Gen.Reconfig.balloonsReconfigure = Expectgen_reconfig_facts_ok.balloonsReconfigure := by
  and_intros <;> rfl

end Nri.TA
