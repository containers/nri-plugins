import Nri.Gen.LibmemSkel
import Nri.Gen.LibmemFacts
import Nri.Proofs.LibMemOffer
import Nri.Proofs.LibMemTrack
/-!
C06 — memory allocator operations are transactional; stale offers are rejected.

`WF s` = no journal open between operations and request ids unique (in the Go code `requests` is a map
keyed by id, and every public entry point closes the journal it opened).  `Placed` occurs in two statements
and is not used: `Proofs/LibMemOffer` proves them from `WF` alone.  "Assignments and usage unchanged" is stated as equality of the
request list `reqs` (ids, sizes, zones, types …): `zoneUsage`/`zoneFree` of every node set is a
function of `reqs` and the static node list only (`usage_of_reqs`).  The theorems are read off
the normal forms of the operations in `Proofs/LibMemTxn` (`Allocate_view`, `GetOffer_view`,
`Realloc_view`, `Release_view`; `Restored` = what a failure or an offer leaves).
-/
namespace Nri.LibMem

/-- regenerated facts (extracted from allocator.go): which functions call `invalidateOffers` - the model
bumps the version in exactly these -, which entry points clean up unused zones, and the priority and
type tables of overcommit resolution. -/
theorem gen_libmem_facts_ok :
    Nri.Gen.LibMem.invalidatesOffers = ["Allocate", "Commit", "realloc", "release", "reset"] ∧
    Nri.Gen.LibMem.cleansUnusedZones = ["Allocate", "Commit", "GetOffer", "Realloc", "Release"] ∧
    Nri.Gen.LibMem.allowedPrios = allowedPrios ∧ Nri.Gen.LibMem.expandTypes = expandTypes := ⟨rfl, rfl, rfl, rfl⟩

theorem usage_of_reqs (s s' : St) (h : s'.reqs = s.reqs) (hn : s'.nodes = s.nodes) (z : Mask) :
    s'.zoneUsage z = s.zoneUsage z ∧ s'.zoneFree z = s.zoneFree z := by
  unfold St.zoneFree St.zoneUsage St.zoneCapacity
  rw [h, hn]; exact ⟨rfl, rfl⟩

/-! ### what `Allocate` and `GetOffer` do to assignments and version -/

theorem allocate_fail_unchanged (s : St) (hw : WF s) (r : Req) (e : Err)
    (h : (s.Allocate r).2 = .error e) :
    (s.Allocate r).1.reqs = s.reqs ∧ (s.Allocate r).1.version = s.version ∧ (s.Allocate r).1.journal = none := by
  rcases Allocate_view s hw r with ⟨_, _, hr⟩ | ⟨_, ha⟩
  · exact ⟨hr.reqs, hr.version, hr.journal⟩
  · rw [ha.result] at h; cases h

/-- a successful `Allocate` invalidates every outstanding offer. -/
theorem allocate_ok_version (s : St) (hw : WF s) (r : Req) (res : Result)
    (h : (s.Allocate r).2 = .ok res) : (s.Allocate r).1.version = s.version + 1 := by
  obtain ⟨r', ha⟩ := Allocate_ok_view s hw r res h
  rw [ha.state, committed_version, (allocTxn_good hw ha.valid).version]; rfl

/-- requesting an offer never changes assignments, usage or the version - whether it
succeeds or fails. -/
theorem getOffer_pure (s : St) (hw : WF s) (r : Req) :
    (s.GetOffer r).1.reqs = s.reqs ∧ (s.GetOffer r).1.version = s.version ∧ (s.GetOffer r).1.journal = none :=
  have h := (GetOffer_view s hw r).1
  ⟨h.reqs, h.version, h.journal⟩

/-- the offer records the version it was computed at. -/
theorem getOffer_version (s : St) (hw : WF s) (r : Req) (o : Offer) (h : (s.GetOffer r).2 = .ok o) :
    o.version = s.version := by
  obtain ⟨_, _, rfl⟩ := (GetOffer_view s hw r).2 o h
  rfl

/-! ### stale offers; `Commit` and `Release` -/

/-- an offer whose version is not the allocator's current one is refused, and refusing it
changes nothing. -/
theorem stale_offer_refused (s : St) (o : Offer) (h : o.version ≠ s.version) :
    s.Commit o = (s, .error .expiredOffer) := by
  rw [commit_eq, if_pos h]

/-- a successful `Commit` invalidates every other outstanding offer (and itself). -/
theorem commit_ok_version (s : St) (o : Offer) (res : Result) (h : (s.Commit o).2 = .ok res) :
    (s.Commit o).1.version = s.version + 1 := by
  rw [commit_eq] at h ⊢
  split at h
  · cases h
  · rename_i hne
    rw [if_neg hne]
    exact congrArg (· + 1) (List.foldlRecOn (motive := fun t => t.version = s.version) _ (commitStep o.req) rfl
      fun a h x _ => (commitStep_frame o.req a x).2.1.trans h)

theorem release_ok (s : St) (id : String) (h : (s.Release id).2 = .ok ()) :
    (s.Release id).1.reqs = s.reqs.filter (·.id != id) ∧ (s.Release id).1.version = s.version + 1 := by
  rcases Release_view s id with ⟨_, _, he⟩ | ⟨_, _, _, _, he⟩ | ⟨_, _, _, _, heq⟩
  · rw [he] at h; cases h
  · rw [he] at h; cases h
  · rw [heq]; exact ⟨rfl, rfl⟩

/-- releasing an unknown allocation is refused and changes nothing. -/
theorem release_unknown (s : St) (id : String) (h : s.req? id = none) :
    s.Release id = (s, .error .unknownRequest) := by
  rcases Release_view s id with ⟨_, h1, h2⟩ | ⟨_, hr, _⟩ | ⟨_, hr, _⟩
  · exact Prod.ext h1 h2
  all_goals rw [h] at hr; cases hr

/-! ### a failed re-allocation leaves no trace; well-formedness is kept by every operation -/

/-- a failed `Realloc` (unknown request, invalid nodes/types, no nodes to expand to, overcommit
that cannot be resolved) leaves every assignment, the version and the journal as they were. -/
theorem realloc_fail_unchanged (s : St) (hw : WF s) (id : String) (nodes : Mask) (types : Nat) (e : Err)
    (h : (s.Realloc id nodes types).2 = .error e) :
    (s.Realloc id nodes types).1.reqs = s.reqs ∧ (s.Realloc id nodes types).1.version = s.version ∧
    (s.Realloc id nodes types).1.journal = none := by
  rcases Realloc_view s hw id nodes types with ⟨_, _, hr⟩ | ⟨_, _, _, hres⟩ | ⟨_, _, _, _, _, rfl, ha⟩
  · exact ⟨hr.reqs, hr.version, hr.journal⟩
  · rw [hres] at h; cases h
  · rw [ha.result] at h; cases h

/-- `WF` (no transaction left open, unique request ids) - the one hypothesis the theorems of this
file use - is re-established by every public operation, whatever its outcome and whatever offer
object `Commit` is handed; so the theorems compose over arbitrary interleavings. -/
theorem every_operation_keeps_wf (s : St) (hw : WF s) :
    (∀ r, WF (s.Allocate r).1) ∧ (∀ r, WF (s.GetOffer r).1) ∧ (∀ o, WF (s.Commit o).1) ∧
    (∀ id nodes types, WF (s.Realloc id nodes types).1) ∧ (∀ id, WF (s.Release id).1) :=
  ⟨fun r => step_wf s hw (.allocate r), fun r => step_wf s hw (.getOffer r), commit_wf s hw,
    fun id nodes types => step_wf s hw (.realloc id nodes types), fun id => step_wf s hw (.release id)⟩

/-! ### committing a fresh offer = allocating directly -/

/-- **Commit of a fresh offer = `Allocate`.** In every well-formed state (`hp` is not used:
`commit_fresh_result_eq_allocate`, `commit_fresh_reqs_eq_allocate`), for every request: if `GetOffer r` succeeds,
committing the offer right away (a) returns exactly the result - zone and update map - that
`Allocate r` returns in that state, and (b) leaves exactly the request list - ids, sizes, types,
zones, hence the usage and free memory of every node set - that `Allocate r` leaves.
(Proof: the offer carries the journal's update map of the same internal `allocate`; that map has
unique keys and is exact, so `Commit`'s replay reproduces every zone: `Proofs/LibMemUpd`,
`LibMemOffer`.)  Not covered: the ORDER of entries in the zone table. -/
theorem commit_fresh_eq_allocate (s : St) (hw : WF s) (hp : Placed s) (r : Req) (o : Offer)
    (h : (s.GetOffer r).2 = .ok o) :
    ((s.GetOffer r).1.Commit o).2 = (s.Allocate r).2 ∧
    ((s.GetOffer r).1.Commit o).1.reqs = (s.Allocate r).1.reqs :=
  ⟨commit_fresh_result_eq_allocate s hw r o h, commit_fresh_reqs_eq_allocate s hw r o h⟩

-- non-vacuity: an offer that displaces another request, committed, reports what Allocate reports
example :
    let s0 : St := ((({ nodes := [{ id := 0, typ := 0, cap := 100, normal := true, dist := [10, 21] },
                                  { id := 1, typ := 0, cap := 100, normal := true, dist := [21, 10] }] } : St).Allocate
      { id := "b", size := 70, aff := 1, types := 0, strict := false, prio := 1024, created := 1 }).1)
    let r : Req := { id := "g", size := 60, aff := 1, types := 0, strict := false, prio := 16384, created := 2 }
    (match (s0.GetOffer r).2 with
     | .ok o => (((s0.GetOffer r).1.Commit o).2, (s0.Allocate r).2)
     | .error _ => (.error .other, .error .internal))
      = (.ok ⟨1, [("b", 3)]⟩, .ok ⟨1, [("b", 3)]⟩) := by rfl

/-! ### offers committed arbitrarily late -/

/-- **Offers committed arbitrarily late.** Take an offer in any well-formed state `s` (`hp` is not used:
`late_commit`), let
ANY sequence of Allocate / GetOffer / Realloc / Release operations (successful or failing) follow,
and commit the offer then.  Either its version is no longer the allocator's and the commit is
refused without any change - this is the case as soon as one assignment has changed, because the
version never decreases and stays the same only if the request list stays the same
(`run_version`) - or nothing has changed since the offer was computed, and the commit returns the
zone and the updates and leaves the assignments that a direct `Allocate` in `s` would have. -/
theorem late_commit_refused_or_as_fresh (s : St) (hw : WF s) (hp : Placed s) (r : Req) (o : Offer)
    (h : (s.GetOffer r).2 = .ok o) (ops : List Op) :
    (o.version ≠ ((s.GetOffer r).1.run ops).version →
        ((s.GetOffer r).1.run ops).Commit o = (((s.GetOffer r).1.run ops), .error .expiredOffer)) ∧
    (o.version = ((s.GetOffer r).1.run ops).version →
        ((s.GetOffer r).1.run ops).reqs = s.reqs ∧
        (((s.GetOffer r).1.run ops).Commit o).2 = (s.Allocate r).2 ∧
        (((s.GetOffer r).1.run ops).Commit o).1.reqs = (s.Allocate r).1.reqs) :=
  late_commit s hw r o h ops

/-- the version is a faithful change counter over every history: it never decreases, and two
states of a history with the same version have the same assignments. -/
theorem version_counts_changes (s : St) (hw : WF s) (ops : List Op) :
    s.version ≤ (s.run ops).version ∧ ((s.run ops).version = s.version → (s.run ops).reqs = s.reqs) :=
  (run_version ops s hw).2

-- non-vacuity: a concrete 2-node allocator is well-formed and the theorems' hypotheses are met
def exampleSt : St :=
  { nodes := [{ id := 0, typ := 0, cap := 100, normal := true, dist := [10, 21] },
              { id := 1, typ := 0, cap := 100, normal := true, dist := [21, 10] }] }
def exampleReq (id : String) (size : Int) : Req :=
  { id := id, size := size, aff := 1, types := 0, strict := false, prio := 1024, created := 1 }

example : WF exampleSt := ⟨rfl, by decide⟩
example : (exampleSt.Allocate (exampleReq "a" 60)).2 = .ok ⟨1, []⟩ := by rfl
example : ((exampleSt.Allocate (exampleReq "a" 300)).2) = .error .noMem := by rfl

end Nri.LibMem

/-! ### source shapes the model was written against (LibmemSkel.lean; the regenerated facts must equal them) -/
namespace Nri.LibMem.Expectgen_libmem_skeletons_ok
def getOffer : List String := ["err := a.allocate(req)", "if err != nil", "> return nil, err", "updates, err := a.revertJournal(req)", "if err != nil", "> return nil, err", "return a.newOffer(req, updates), nil"]
def getOfferDefers : List String := ["defer a.validateState(\"GetOffer\")", "defer a.cleanupUnusedZones()"]
def allocatePub : List String := ["err := a.allocate(req)", "if err != nil", "> return 0, nil, err", "a.invalidateOffers()", "return req.zone, a.commitJournal(req), nil"]
def allocatePubDefers : List String := ["defer a.validateState(\"Allocate\")", "defer a.cleanupUnusedZones()"]
def reallocPub : List String := ["req, ok := a.requests[id]", "if !ok", "> return 0, nil, fmt.Errorf(…)", "return a.realloc(req, affinity, types)"]
def reallocPubDefers : List String := ["defer a.validateState(\"Realloc\")", "defer a.cleanupUnusedZones()"]
def releasePub : List String := ["req, ok := a.requests[id]", "if !ok", "> return fmt.Errorf(…)", "return a.release(req)"]
def releasePubDefers : List String := ["defer a.validateState(\"Release\")", "defer a.cleanupUnusedZones()"]
def allocate : List String := ["if err := a.validateRequest(req); err != nil", "> return err", "if err := a.findInitialZone(req); err != nil", "> return err", "if err := a.ensureNormalMemory(req); err != nil", "> return err", "if err := a.startJournal(); err != nil", "> return err", "a.requests[req.ID()] = req", "a.zoneAssign(req.zone, req)", "return a.handleOvercommit(req.zone)"]
def allocateDefers : List String := ["defer func", "> if retErr != nil", "> > _, err := a.revertJournal(req)", "> > if err != nil"]
def realloc : List String := ["if nodes, types, done, err = a.validateRealloc(req, nodes, types); err != nil", "> return 0, nil, err", "if done", "> return req.Zone(), nil, nil", "if err = a.startJournal(); err != nil", "> return 0, nil, err", "newNodes, newTypes := a.expand(req.zone|nodes, types)", "if newNodes == 0", "> return 0, nil, fmt.Errorf(…)", "a.zoneMove(req.zone|nodes|newNodes, req)", "if err := a.handleOvercommit(req.zone | nodes | newNodes); err != nil", "> req.zone = a.users[req.ID()]", "> return 0, nil, fmt.Errorf(…)", "req.zone |= nodes | newNodes", "req.types |= newTypes", "a.invalidateOffers()", "return req.zone, a.commitJournal(req), nil"]
def reallocDefers : List String := ["defer func", "> if retErr != nil", "> > _, err := a.revertJournal(nil)", "> > if err != nil"]
def release : List String := ["zone, ok := a.users[req.ID()]", "if !ok", "> return fmt.Errorf(…)", "a.zoneRemove(zone, req.ID())", "delete(a.requests, req.ID())", "a.invalidateOffers()", "return nil"]
def startJournal : List String := ["if a.journal != nil", "> return fmt.Errorf(…)", "a.journal = &journal{ updates: make(map[string]NodeMask), reverts: make(map[string]NodeMask), }", "return nil"]
def commitJournal : List String := ["j := a.journal", "a.journal = nil", "delete(j.updates, req.ID())", "if len(j.updates) == 0", "> j.updates = nil", "return j.updates"]
def revertJournal : List String := ["if a.journal == nil", "> return nil, nil", "j := a.journal", "a.journal = nil", "range j.reverts", "> r, ok := a.requests[id]", "> if !ok", "> > if req == nil || req.ID() != id", "> > > return nil, fmt.Errorf(…)", "> current, ok := a.users[id]", "> if !ok", "> > return nil, fmt.Errorf(…)", "> a.zoneRemove(current, id)", "> if zone != 0", "> > a.zoneAssign(zone, r)", "if req != nil", "> delete(a.requests, req.ID())", "return j.updates, nil"]
def journalAssign : List String := ["if j == nil", "> return", "j.updates[id] = zone", "if _, ok := j.reverts[id]; ok", "> return", "j.reverts[id] = 0"]
def journalDelete : List String := ["if j == nil", "> return", "if _, ok := j.reverts[id]; ok", "> return", "j.reverts[id] = zone"]
def offerCommit : List String := ["if !o.IsValid()", "> return 0, nil, fmt.Errorf(…)", "o.a.validateState(\"pre-Commit\")", "range o.updates", "> if id == o.req.ID()", "> > o.a.zoneAssign(zone, o.req)", "> > o.a.requests[o.req.ID()] = o.req", "> else", "> > req, ok := o.a.requests[id]", "> > if ok", "> > > o.a.zoneMove(zone, req)", "> > > req.zone = zone", "o.a.invalidateOffers()", "return o.NodeMask(), o.Updates(), nil"]
def offerCommitDefers : List String := ["defer o.a.validateState(\"post-Commit\")", "defer o.a.DumpState()", "defer o.a.cleanupUnusedZones()"]
def handleOvercommit : List String := ["oc, spill := a.checkOvercommit(nodes)", "if len(oc) == 0", "> return nil", "if a.custom.HandleOvercommit != nil", "> return a.custom.HandleOvercommit(spill, &customAllocator{a})", "else", "> return a.defaultHandleOvercommit(nodes, oc, spill)"]
def resolveOvercommit : List String := ["for", "> a.dumpOvercommit(\"- resolving overcommit for zones:\", oc, spill)", "> moved := int64(0)", "> range allowedPrios", "> > types := TypeMask(0)", "> > range expandTypes", "> > > if extra != 0", "> > > > extra &= a.masks.types", "> > > > if extra == 0", "> > > > > continue", "> > > > types |= extra", "> > > range oc", "> > > > if !ok", "> > > > > continue", "> > > > m := a.zoneShrinkUsage(z, amount, prio, types)", "> > > > moved += m", "> > > if oc, spill = a.checkOvercommit(nodes); len(oc) == 0", "> > > > return nil", "> if moved == 0", "> > break", "range spill", "return fmt.Errorf(…)"]
def cleanup : List String := ["range a.zones", "> if len(zone.users) == 0", "> > delete(a.zones, z)"]
def zoneAssign : List String := ["z, ok := a.zones[zone]", "if !ok", "> z = &Zone{ nodes: zone, types: a.zoneType(zone), capacity: a.zoneCapacity(zone), users: map[string]*Request{}, }", "> a.zones[zone] = z", "z.users[req.ID()] = req", "a.users[req.ID()] = zone", "req.zone = zone", "a.journal.assign(zone, req.ID())"]
def zoneRemove : List String := ["z, ok := a.zones[zone]", "if !ok", "> return", "req, ok := z.users[id]", "if !ok", "> return", "delete(z.users, req.ID())", "delete(a.users, req.ID())", "a.journal.delete(zone, id)", "req.zone = 0"]
def zoneMove : List String := ["if from, ok := a.users[req.ID()]; ok", "> if from == zone", "> > return", "> a.zoneRemove(from, req.ID())", "a.zoneAssign(zone, req)"]
def zoneShrinkUsage : List String := ["if !ok || len(z.users) == 0", "> return 0", "nodes, types := a.expand(zone, z.types|extra)", "if nodes == 0", "> return 0", "moved := int64(0)", "range SortRequests(z.users, RequestsWithMaxPriority(limit), RequestsByPriority, RequestsBySize, RequestsByAge, )", "> if !req.IsStrict() || req.Types() == z.types|types", "> > a.zoneMove(zone|nodes, req)", "> > moved += req.Size()", "> > if moved >= amount", "> > > break", "return moved"]
end Nri.LibMem.Expectgen_libmem_skeletons_ok

namespace Nri.LibMem

/-- regenerated statement skeletons of libmem's transactional core (GetOffer/Allocate/Realloc/Release, allocate/realloc/release with their deferred revert and clean-up calls, journal start/commit/revert, journal.assign/delete, Offer.Commit, overcommit handling and zoneShrinkUsage, zoneAssign/Remove/Move) equal the shapes the functional port in Model/LibMem.lean was written against; a rewrite of any of them - harmless or not - breaks this obligation and sends the check to the correspondence run for a failing input -/
theorem gen_libmem_skeletons_ok :
    Nri.Gen.LibmemSkel.getOffer = Expectgen_libmem_skeletons_ok.getOffer ∧
    Nri.Gen.LibmemSkel.getOfferDefers = Expectgen_libmem_skeletons_ok.getOfferDefers ∧
    Nri.Gen.LibmemSkel.allocatePub = Expectgen_libmem_skeletons_ok.allocatePub ∧
    Nri.Gen.LibmemSkel.allocatePubDefers = Expectgen_libmem_skeletons_ok.allocatePubDefers ∧
    Nri.Gen.LibmemSkel.reallocPub = Expectgen_libmem_skeletons_ok.reallocPub ∧
    Nri.Gen.LibmemSkel.reallocPubDefers = Expectgen_libmem_skeletons_ok.reallocPubDefers ∧
    Nri.Gen.LibmemSkel.releasePub = Expectgen_libmem_skeletons_ok.releasePub ∧
    Nri.Gen.LibmemSkel.releasePubDefers = Expectgen_libmem_skeletons_ok.releasePubDefers ∧
    Nri.Gen.LibmemSkel.allocate = Expectgen_libmem_skeletons_ok.allocate ∧
    Nri.Gen.LibmemSkel.allocateDefers = Expectgen_libmem_skeletons_ok.allocateDefers ∧
    Nri.Gen.LibmemSkel.realloc = Expectgen_libmem_skeletons_ok.realloc ∧
    Nri.Gen.LibmemSkel.reallocDefers = Expectgen_libmem_skeletons_ok.reallocDefers ∧
    Nri.Gen.LibmemSkel.release = Expectgen_libmem_skeletons_ok.release ∧
    Nri.Gen.LibmemSkel.startJournal = Expectgen_libmem_skeletons_ok.startJournal ∧
    Nri.Gen.LibmemSkel.commitJournal = Expectgen_libmem_skeletons_ok.commitJournal ∧
    Nri.Gen.LibmemSkel.revertJournal = Expectgen_libmem_skeletons_ok.revertJournal ∧
    Nri.Gen.LibmemSkel.journalAssign = Expectgen_libmem_skeletons_ok.journalAssign ∧
    Nri.Gen.LibmemSkel.journalDelete = Expectgen_libmem_skeletons_ok.journalDelete ∧
    Nri.Gen.LibmemSkel.offerCommit = Expectgen_libmem_skeletons_ok.offerCommit ∧
    Nri.Gen.LibmemSkel.offerCommitDefers = Expectgen_libmem_skeletons_ok.offerCommitDefers ∧
    Nri.Gen.LibmemSkel.handleOvercommit = Expectgen_libmem_skeletons_ok.handleOvercommit ∧
    Nri.Gen.LibmemSkel.resolveOvercommit = Expectgen_libmem_skeletons_ok.resolveOvercommit ∧
    Nri.Gen.LibmemSkel.cleanup = Expectgen_libmem_skeletons_ok.cleanup ∧
    Nri.Gen.LibmemSkel.zoneAssign = Expectgen_libmem_skeletons_ok.zoneAssign ∧
    Nri.Gen.LibmemSkel.zoneRemove = Expectgen_libmem_skeletons_ok.zoneRemove ∧
    Nri.Gen.LibmemSkel.zoneMove = Expectgen_libmem_skeletons_ok.zoneMove ∧
    Nri.Gen.LibmemSkel.zoneShrinkUsage = Expectgen_libmem_skeletons_ok.zoneShrinkUsage := by
  and_intros <;> rfl

end Nri.LibMem
