import Nri.Model.AgentCfg
import Nri.Gen.AgentFsm
/-!
C17 — configuration precedence: node-specific over group/default, always.
`delivered_is_effective` and `invalid_never_delivered` hold after every event list (by the invariant
`Inv`); the theorems about one event hold in every state, reachable or not.
-/
namespace Nri.AgentCfg

/-- regenerated facts: in `updateGroupConfig` the group config is recorded *before* the early
return for an existing node config; `updateNodeConfig` records the node config before it calls
`updateConfig`; in `updateConfig` validation precedes notification; `sameConfigVersion` never takes
generation 0 for the same version. -/
theorem gen_agent_fsm_ok :
    Nri.Gen.Agent.groupAssignBeforeNodeCheck = true ∧
    Nri.Gen.Agent.nodeAssignBeforeUpdate = true ∧
    Nri.Gen.Agent.validateBeforeNotify = true ∧
    Nri.Gen.Agent.gen0NeverSame = true := by decide

def Inv (s : St) : Prop :=
  (∀ c, effective s = some c → s.currentCfg = some c) ∧
  (∀ c, effective s = some c → c.valid = true → s.delivered.getLast? = some c) ∧
  (∀ c ∈ s.delivered, c.valid = true)

theorem inv_init : Inv {} := by
  refine ⟨?_, ?_, ?_⟩ <;> simp [effective]

theorem effective_updateConfig (s : St) (t : Option Cfg) : effective (updateConfig s t) = effective s := by
  cases t with
  | none => rfl
  | some c => simp only [updateConfig]; split <;> rfl

theorem inv_updateConfig (s : St) (h3 : ∀ c ∈ s.delivered, c.valid = true) :
    Inv (updateConfig s (effective s)) := by
  unfold Inv
  rw [effective_updateConfig]
  cases effective s with
  | none => exact ⟨nofun, nofun, h3⟩
  | some x =>
    simp only [Option.some.injEq, forall_eq', updateConfig]
    cases hv : x.valid with
    | true =>
      refine ⟨rfl, fun _ => List.getLast?_concat, fun c hc => ?_⟩
      rcases List.mem_append.1 hc with hc | hc
      · exact h3 c hc
      · rw [List.mem_singleton.1 hc, hv]
    | false => exact ⟨rfl, nofun, h3⟩

theorem inv_step (s : St) (e : Ev) (h : Inv s) : Inv (step s e) := by
  obtain ⟨n, g, cur, dl⟩ := s
  -- `step` is an `if` on the duplicate test; a duplicate changes nothing
  cases e with
  | node c =>
    refine iteInduction (motive := Inv) (fun _ => h) fun _ => ?_
    -- what is handed to `updateConfig` is `effective` of the new state, by computation
    exact inv_updateConfig ⟨c, g, cur, dl⟩ h.2.2
  | group c =>
    refine iteInduction (motive := Inv) (fun _ => h) fun _ => ?_
    cases n with
    | some n => exact h  -- shadowed by the node configuration: `Inv` reads nothing that changed
    | none => exact inv_updateConfig ⟨none, c, cur, dl⟩ h.2.2

theorem inv_run (evs : List Ev) : Inv (run evs) :=
  List.foldlRecOn evs step inv_init fun s h e _ => inv_step s e h

/-- **Precedence, always.** After every event history the configuration in force (the node-specific
one if one currently exists, else the current group/default one), if valid, is the one most
recently delivered to the plugin. While an invalid node-specific configuration exists nothing
is claimed: group updates are remembered but not delivered. -/
theorem delivered_is_effective (evs : List Ev) (c : Cfg)
    (h : effective (run evs) = some c) (hv : c.valid = true) :
    (run evs).delivered.getLast? = some c :=
  (inv_run evs).2.1 c h hv

theorem invalid_never_delivered (evs : List Ev) : ∀ c ∈ (run evs).delivered, c.valid = true :=
  (inv_run evs).2.2

/-- a group/default update never replaces (or re-delivers over) an existing node-specific
configuration: nothing is delivered and the current config stays. -/
theorem group_never_overrides_node (s : St) (n : Cfg) (hn : s.nodeCfg = some n) (g : Option Cfg) :
    (step s (.group g)).delivered = s.delivered ∧ (step s (.group g)).currentCfg = s.currentCfg ∧
    (step s (.group g)).nodeCfg = some n := by
  cases hsv : sameVersion g s.groupCfg <;> simp [step, hsv, hn]

/-- … but it is remembered: deleting the node-specific configuration falls back to the
*current* group configuration. -/
theorem delete_falls_back (s : St) (n g : Cfg) (hn : s.nodeCfg = some n) (hg : s.groupCfg = some g)
    (hv : g.valid = true) :
    (step s (.node none)).delivered = s.delivered ++ [g] ∧ (step s (.node none)).currentCfg = some g := by
  unfold step
  simp [sameVersion, hn, hg, updateConfig, hv]

theorem group_update_remembered (s : St) (n : Cfg) (hn : s.nodeCfg = some n) (g : Cfg)
    (hd : sameVersion (some g) s.groupCfg = false) :
    (step s (.group (some g))).groupCfg = some g := by
  unfold step
  simp [hd, hn]

/-- re-delivery of an already applied resource version causes no re-configuration. -/
theorem dup_no_redelivery (s : St) :
    (∀ c, sameVersion c s.nodeCfg = true → step s (.node c) = s) ∧
    (∀ c, sameVersion c s.groupCfg = true → step s (.group c) = s) :=
  ⟨fun _ h => if_pos h, fun _ h => if_pos h⟩

theorem node_update_delivered (s : St) (c : Cfg) (hv : c.valid = true)
    (hd : sameVersion (some c) s.nodeCfg = false) :
    (step s (.node (some c))).delivered = s.delivered ++ [c] := by
  unfold step
  simp [hd, updateConfig, hv]

-- a history with both kinds and a deletion, and what it delivers
example :
    let n1 : Cfg := ⟨1, 1, true⟩; let g1 : Cfg := ⟨2, 1, true⟩; let g2 : Cfg := ⟨2, 2, true⟩
    (run [.group (some g1), .node (some n1), .group (some g2), .node none]).delivered = [g1, n1, g2] := by
  decide

end Nri.AgentCfg
