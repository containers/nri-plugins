import Nri.Model.Locking
import Nri.Gen.LockFacts
/-!
C15 — request processing is serialized.

Proved for every set of requests (arbitrary programs of atomic micro-steps on the shared
state) and EVERY schedule: at most one request is inside its critical section
(`mutual_exclusion`), and the shared state is always the result of executing the finished
requests sequentially in lock-acquisition order, followed by the prefix the current owner has
executed (`Inv`, `inv_run`); when no request is in flight the state equals that of a sequential
execution (`serializable`).  Without the lock this is false (`unlocked_lost_update`).  The tie
to the code is the regenerated fact that every entry point takes the lock before its first
access to the cache or the policy (`entry_points_lock_first`).

Absence of data races in the real code and per-request completion are checked by running the
real handlers concurrently under the Go race detector, not proved.
-/
namespace Nri.Locking

variable {σ : Type}

theorem entry_points_lock_first :
    Nri.Gen.Lock.entryPoints = [("Synchronize", true), ("RunPodSandbox", true), ("StopPodSandbox", true), ("RemovePodSandbox", true),
      ("CreateContainer", true), ("StartContainer", true), ("UpdateContainer", true), ("StopContainer", true), ("RemoveContainer", true),
      ("reconfigure", true), ("Stop", true)] ∧
    Nri.Gen.Lock.podFetchHasNoGoroutine = true := ⟨rfl, rfl⟩

/-- state predicted by the serial order: finished requests in acquisition order, then the
owner's prefix -/
def spec (prog : Nat → List (σ → σ)) (init : σ) (s : Sys σ) : σ :=
  match s.owner with
  | none => serial prog init s.order
  | some t =>
    match s.pc t with
    | .inside k => ((prog t).take k).foldl (fun a f => f a) (serial prog init s.order.dropLast)
    | _ => serial prog init s.order

structure Inv (prog : Nat → List (σ → σ)) (init : σ) (s : Sys σ) : Prop where
  inside_owner : ∀ t k, s.pc t = .inside k → s.owner = some t
  owner_inside : ∀ t, s.owner = some t → ∃ k, s.pc t = .inside k ∧ s.order.getLast? = some t
  state : s.st = spec prog init s

theorem inv_init (prog : Nat → List (σ → σ)) (init : σ) : Inv prog init (initSys init) :=
  ⟨nofun, nofun, rfl⟩

theorem upd_same (f : Nat → Pc) (t : Nat) (v : Pc) : upd f t v t = v := if_pos rfl
theorem upd_other (f : Nat → Pc) (t x : Nat) (v : Pc) (h : x ≠ t) : upd f t v x = f x := if_neg h

theorem serial_concat (prog : Nat → List (σ → σ)) (init : σ) (l : List Nat) (t : Nat) :
    serial prog init (l ++ [t]) = effect prog t (serial prog init l) := by
  simp [serial, List.foldl_append]

theorem inv_step (prog : Nat → List (σ → σ)) (init : σ) (s : Sys σ) (t : Nat) (h : Inv prog init s) :
    Inv prog init (stepT prog s t) := by
  unfold stepT
  split
  · split
    · -- the lock is free: `t` acquires it
      rename_i ho
      refine ⟨fun x k hx => ?_, fun x hx => ?_, ?_⟩
      · by_cases hxt : x = t
        · rw [hxt]
        · simp only [upd_other _ _ _ _ hxt] at hx
          exact absurd (h.inside_owner x k hx) (by rw [ho]; nofun)
      · cases hx
        exact ⟨0, upd_same .., List.getLast?_concat⟩
      · simp only [spec, upd_same, List.take_zero, List.foldl_nil, List.dropLast_concat]
        rw [h.state, spec, ho]
    · exact h
  · rename_i k hpc
    have hown := h.inside_owner t k hpc
    obtain ⟨_, _, hlast⟩ := h.owner_inside t hown
    have hst := h.state
    simp only [spec, hown, hpc] at hst
    split
    · -- `t` executes its next micro-step
      rename_i f hf
      refine ⟨fun x j hx => ?_, fun x hx => ?_, ?_⟩
      · by_cases hxt : x = t
        · rw [hxt]; exact hown
        · simp only [upd_other _ _ _ _ hxt] at hx
          exact h.inside_owner x j hx
      · obtain rfl : t = x := Option.some.inj (hown.symm.trans hx)
        exact ⟨k + 1, upd_same .., hlast⟩
      · simp only [spec, hown, upd_same, List.take_add_one, hf, List.foldl_append, hst]
        rfl
    · -- `t` has run all of `prog t`: it unlocks, and its whole effect joins the serial prefix
      rename_i hf
      refine ⟨fun x j hx => ?_, nofun, ?_⟩
      · by_cases hxt : x = t
        · simp only [hxt, upd_same] at hx
          cases hx
        · simp only [upd_other _ _ _ _ hxt] at hx
          exact absurd (Option.some.inj ((h.inside_owner x j hx).symm.trans hown)) hxt
      · obtain ⟨l, hl⟩ := List.getLast?_eq_some_iff.1 hlast
        rw [hl, List.dropLast_concat, List.take_of_length_le (List.getElem?_eq_none_iff.1 hf)] at hst
        simp only [spec, hl, serial_concat]
        exact hst
  · exact h

theorem inv_run (prog : Nat → List (σ → σ)) (init : σ) (sched : List Nat) : Inv prog init (run prog init sched) :=
  List.foldlRecOn sched (stepT prog) (inv_init prog init) fun s h t _ => inv_step prog init s t h

/-- **Mutual exclusion**: in every reachable state at most one request is inside its critical section. -/
theorem mutual_exclusion (prog : Nat → List (σ → σ)) (init : σ) (sched : List Nat) (t1 t2 k1 k2 : Nat)
    (h1 : (run prog init sched).pc t1 = .inside k1) (h2 : (run prog init sched).pc t2 = .inside k2) : t1 = t2 :=
  have i := inv_run prog init sched
  Option.some.inj ((i.inside_owner t1 k1 h1).symm.trans (i.inside_owner t2 k2 h2))

/-- **Serializability**: whenever no request holds the lock, the shared state is exactly the state a
sequential execution of the requests, in lock-acquisition order, produces - for every schedule. -/
theorem serializable (prog : Nat → List (σ → σ)) (init : σ) (sched : List Nat)
    (hq : (run prog init sched).owner = none) :
    (run prog init sched).st = serial prog init (run prog init sched).order := by
  rw [(inv_run prog init sched).state, spec, hq]

/-- without the lock two read-modify-write requests can lose an update: no serial order explains
the outcome (the shape of the pre-fix Synchronize/StopPodSandbox/RemovePodSandbox) -/
theorem unlocked_lost_update :
    let prog : Nat → List (Nat × Nat × Nat → Nat × Nat × Nat) := fun t =>
      if t = 0 then [fun s => (s.1, s.1, s.2.2), fun s => (s.2.1 + 1, s.2.1, s.2.2)]
      else [fun s => (s.1, s.2.1, s.1), fun s => (s.2.2 + 1, s.2.1, s.2.2)]
    (runU prog (0, 0, 0) [0, 1, 0, 1, 0, 1, 0, 1]).st.1 = 1 ∧
    (serial prog (0, 0, 0) [0, 1]).1 = 2 ∧ (serial prog (0, 0, 0) [1, 0]).1 = 2 := by decide

-- the same two requests with the lock: the same eight attempts, of which request 1's first three find the lock
-- taken, and three more steps for it to finish
example :
    let prog : Nat → List (Nat × Nat × Nat → Nat × Nat × Nat) := fun t =>
      if t = 0 then [fun s => (s.1, s.1, s.2.2), fun s => (s.2.1 + 1, s.2.1, s.2.2)]
      else [fun s => (s.1, s.2.1, s.1), fun s => (s.2.2 + 1, s.2.1, s.2.2)]
    (run prog (0, 0, 0) [0, 1, 0, 1, 0, 1, 0, 1, 1, 1, 1]).st.1 = 2 := by decide

end Nri.Locking
