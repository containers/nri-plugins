import Nri.Model.Annot
import Nri.Gen.AnnotKeys
import Nri.Proofs.Annot
import Nri.Proofs.Logic
/-!
C18 — effective annotations: container-specific beats pod-wide beats bare key, independent of
the order in which annotations are stored.
-/
namespace Nri.Annot

/-- regenerated facts: the key forms and their order in the cache and sgx-epc, the suffixes and
`associate` override flags of memory-qos and memtierd. -/
theorem gen_annot_keys_ok :
    Nri.Gen.Annot.cacheForms = ["+/container.+C", "+/pod", ""] ∧
    Nri.Gen.Annot.sgxForms = ["+/container.+C", "+/pod", ""] ∧
    Nri.Gen.Annot.memoryQos = (".memory-qos.nri.io", [true, false]) ∧
    Nri.Gen.Annot.memtierd = (".memtierd.nri.io", [true, false]) := ⟨rfl, rfl, rfl, rfl⟩

/-- `GetEffectiveAnnotation` is the first hit among the container, pod and bare forms of the key. -/
theorem effective_eq_or (ann : AMap) (key ctr : String) :
    effective ann key ctr =
      ((aget ann (ctrKey key ctr)).or (aget ann (podKey key))).or (aget ann key) := by
  unfold effective
  cases aget ann (ctrKey key ctr) <;> cases aget ann (podKey key) <;> rfl

theorem effective_container (ann : AMap) (key ctr v : String) (h : aget ann (ctrKey key ctr) = some v) :
    effective ann key ctr = some v := by rw [effective_eq_or, h]; rfl

theorem effective_pod (ann : AMap) (key ctr v : String) (h1 : aget ann (ctrKey key ctr) = none)
    (h2 : aget ann (podKey key) = some v) : effective ann key ctr = some v := by
  rw [effective_eq_or, h1, h2]; rfl

theorem effective_bare (ann : AMap) (key ctr : String) (h1 : aget ann (ctrKey key ctr) = none)
    (h2 : aget ann (podKey key) = none) : effective ann key ctr = aget ann key := by
  rw [effective_eq_or, h1, h2]; rfl

/-- annotations under other keys (e.g. addressed to other containers) do not matter -/
theorem effective_congr (a b : AMap) (key ctr : String)
    (h1 : aget a (ctrKey key ctr) = aget b (ctrKey key ctr)) (h2 : aget a (podKey key) = aget b (podKey key))
    (h3 : aget a key = aget b key) : effective a key ctr = effective b key ctr := by
  rw [effective_eq_or, effective_eq_or, h1, h2, h3]

theorem aget_perm (a b : AMap) (hp : a.Perm b) (hn : (a.map (·.1)).Nodup) (k : String) : aget a k = aget b k :=
  Option.ext fun v => by
    rw [aget_eq_some_iff_mem a hn, aget_eq_some_iff_mem b ((hp.map _).nodup_iff.1 hn), hp.mem_iff]

theorem effective_perm (a b : AMap) (hp : a.Perm b) (hn : (a.map (·.1)).Nodup) (key ctr : String) :
    effective a key ctr = effective b key ctr :=
  effective_congr a b key ctr (aget_perm a b hp hn _) (aget_perm a b hp hn _) (aget_perm a b hp hn _)

/-! ### suffix-classified fold (memory-qos, memtierd) -/

/-- The effective map is determined by the set of entries addressed to this container: entry
lists with the same non-`other` members, in whatever order, fold to the same lookups. -/
theorem effFold_congr (l l' : List (Cls × String)) (hu : UniqCls l) (hu' : UniqCls l')
    (hm : ∀ c v, c ≠ Cls.other → ((c, v) ∈ l ↔ (c, v) ∈ l')) (p : String) :
    aget (effFold l) p = aget (effFold l') p :=
  Option.ext fun v => by
    rw [effFold_spec l hu, effFold_spec l' hu']
    simp only [Spec, fun w => hm (.ctr p) w nofun, hm (.pod p) v nofun]

/-- **Order independence of `effectiveAnnotations`.** Whatever order Go's map iteration
produces, every lookup in the resulting effective-annotation map is the same (under `UniqCls`). -/
theorem effFold_perm (l l' : List (Cls × String)) (hp : l.Perm l') (hu : UniqCls l) (p : String) :
    aget (effFold l) p = aget (effFold l') p :=
  effFold_congr l l' hu (uniqCls_perm l l' hp hu) (fun _ _ _ => hp.mem_iff) p

theorem effectiveAnnotations_perm (suffix ctr : String) (a b : AMap) (hp : a.Perm b)
    (hu : UniqCls (a.map fun kv => (classify suffix ctr kv.1, kv.2))) (p : String) :
    aget (effectiveAnnotations suffix ctr a) p = aget (effectiveAnnotations suffix ctr b) p :=
  effFold_perm _ _ (hp.map _) hu p

theorem fold_container_wins (l : List (Cls × String)) (hu : UniqCls l) (p v : String)
    (h : (Cls.ctr p, v) ∈ l) : aget (effFold l) p = some v :=
  (effFold_spec l hu p v).2 (Or.inl h)

theorem fold_pod_applies (l : List (Cls × String)) (hu : UniqCls l) (p v : String)
    (hno : ∀ w, (Cls.ctr p, w) ∉ l) (h : (Cls.pod p, v) ∈ l) : aget (effFold l) p = some v :=
  (effFold_spec l hu p v).2 (Or.inr ⟨hno, h⟩)

/-- annotations that are not addressed to this container (class `other`: other containers'
keys, other plugins' keys) have no effect: dropping them changes nothing. -/
theorem fold_others_irrelevant (l : List (Cls × String)) (hu : UniqCls l) (p : String) :
    aget (effFold (l.filter (fun e => e.1 != Cls.other))) p = aget (effFold l) p :=
  effFold_congr _ l (hu.filter _) hu (fun c v hc => by simp [List.mem_filter, hc]) p

/-! ### an explicitly annotated cgroup parameter always overrides the class-derived value -/

/-- one iteration of memory-qos `CreateContainer`'s loop over the effective annotations; `none` = error reply -/
def qosStep (classOf : String → Option ClassParams) (allowed : List String) (unified : AMap) (e : String × String) :
    Option AMap :=
  if e.1 == "class" then
    match classOf e.2 with
    | none => none
    | some cp => some (cp.params.foldl (fun u kv => associate u kv.1 kv.2 false) unified)
  else if allowed.contains e.1 then some (aset unified e.1 e.2)
  else none

/-- the loop stops at the first error -/
theorem qosFold_eq (classOf : String → Option ClassParams) (allowed : List String) (eff : AMap) :
    qosFold classOf allowed eff = eff.foldlM (qosStep classOf allowed) [] :=
  foldl_eq_foldlM (fun _ => rfl) (fun _ _ => rfl) eff (some [])

/-- class parameters never replace a value that is already there (`associate` without override). -/
theorem class_params_keep (params : AMap) (k v : String) (u : AMap) (h : aget u k = some v) :
    aget (params.foldl (fun u kv => associate u kv.1 kv.2 false) u) k = some v :=
  List.foldlRecOn (motive := (aget · k = some v)) params _ h fun u hu kv _ => by
    rw [aget_associate]
    split
    · next hn => rw [← hn.2, hu] at hn; simp at hn
    · exact hu

theorem qosStep_keeps (classOf : String → Option ClassParams) (allowed : List String) (k v : String)
    (acc acc' : AMap) (e : String × String) (hs : qosStep classOf allowed acc e = some acc')
    (hek : e.1 ≠ k) (ha : aget acc k = some v) : aget acc' k = some v := by
  simp only [qosStep, ite_eq_iff', Option.some.injEq, reduceCtorEq, and_false, or_false] at hs
  rcases hs with ⟨_, hs⟩ | ⟨_, _, rfl⟩
  · split at hs
    · cases hs
    · cases hs; exact class_params_keep _ k v acc ha
  · rw [aget_aset, if_neg (Ne.symm hek)]; exact ha

theorem qos_keeps (classOf : String → Option ClassParams) (allowed : List String) (k v : String) :
    ∀ (rest : AMap) (acc u : AMap), rest.foldlM (qosStep classOf allowed) acc = some u →
      (∀ e ∈ rest, e.1 ≠ k) → aget acc k = some v → aget u k = some v := by
  intro rest
  induction rest with
  | nil => intro acc u h _ ha; cases h; exact ha
  | cons e es ih =>
    intro acc u h hne ha
    rw [List.foldlM_cons] at h
    obtain ⟨acc', hs, h⟩ := Option.bind_eq_some_iff.1 h
    exact ih acc' u h (fun x hx => hne x (List.mem_cons_of_mem _ hx))
      (qosStep_keeps classOf allowed k v acc acc' e hs (hne e List.mem_cons_self) ha)

/-- **Explicit beats class, in every iteration order.** If the effective annotations contain an
explicit cgroup parameter `k = v` (besides a class annotation or not), then whenever
`CreateContainer` succeeds the unified parameter `k` is `v`. -/
theorem explicit_overrides_class (classOf : String → Option ClassParams) (allowed : List String)
    (eff u : AMap) (k v : String) (hk : k ≠ "class") (hnd : (eff.map (·.1)).Nodup)
    (hmem : (k, v) ∈ eff) (hok : qosFold classOf allowed eff = some u) : aget u k = some v := by
  -- the entry sets `k := v`; the entries after it have other keys and keep it
  obtain ⟨pre, post, rfl⟩ := List.append_of_mem hmem
  rw [qosFold_eq, List.foldlM_append] at hok
  obtain ⟨acc, _, hok⟩ := Option.bind_eq_some_iff.1 hok
  rw [List.foldlM_cons] at hok
  obtain ⟨acc', hs, hok⟩ := Option.bind_eq_some_iff.1 hok
  have hpost : ∀ e ∈ post, e.1 ≠ k := fun e he hek => by
    rw [List.map_append, List.map_cons, List.nodup_append] at hnd
    exact (List.nodup_cons.1 hnd.2.1).1 (hek ▸ List.mem_map_of_mem (f := (·.1)) he)
  refine qos_keeps classOf allowed k v post acc' u hok hpost ?_
  simp only [qosStep, beq_iff_eq, hk, if_false, ite_eq_iff', Option.some.injEq, reduceCtorEq, and_false,
    or_false] at hs
  rw [← hs.2, aget_aset, if_pos rfl]

end Nri.Annot
