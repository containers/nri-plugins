import Nri.Model.Sync
import Nri.Gen.SyncFacts
/-!
C11 — restart + Synchronize converges to the runtime's truth.

Proved for EVERY saved cache (any pods, any containers in any - also intermediate - states) and
every runtime report: only containers the runtime lists as created or running are allocated
(`allocated_sound`), every such container whose pod is listed is allocated (`allocated_complete`),
nothing the runtime does not list stays in the cache (`cache_subset_runtime`), everything purged
and every stopped container is released (`purged_released`, `stopped_released`), pods are exactly
the runtime's (`pods_exact`).  With the pre-fix RefreshContainers (saved state kept) the first
two are false (`stale_state_refuted`).  The policy side (what an allocation is, C01-C04 after the
re-allocation, the updates sent) is checked on restart histories of the real resource manager.
-/
namespace Nri.Sync

theorem gen_sync_facts_ok :
    Nri.Gen.Sync.refreshUpdatesKnownState = true ∧
    Nri.Gen.Sync.classifyCases = ["cache.ContainerStateRunning, cache.ContainerStateCreated: allocated+released", "cache.ContainerStateExited: released", "default: -"] ∧
    Nri.Gen.Sync.refreshOrder = ["RefreshPods", "RefreshContainers"] := ⟨rfl, rfl, rfl⟩

theorem cache_from_runtime (c : Cache) (pods : List String) (rt : List Ctr) (k : Ctr)
    (h : k ∈ (sync c pods rt).cache.ctrs) : ∃ r ∈ rt, r.id = k.id ∧ r.state = k.state := by
  simp only [sync, refreshPods, refreshCtrs, List.mem_append, List.mem_filterMap, List.mem_filter,
    Option.map_eq_some_iff] at h
  rcases h with ⟨k0, _, r, hf, rfl⟩ | ⟨hr, _⟩
  · exact ⟨r, List.mem_of_find?_eq_some hf, by simpa using List.find?_some hf, rfl⟩
  · exact ⟨k, hr, rfl, rfl⟩

theorem allocated_sound (c : Cache) (pods : List String) (rt : List Ctr) (k : Ctr)
    (h : k ∈ (sync c pods rt).allocated) : ∃ r ∈ rt, r.id = k.id ∧ live r.state = true := by
  obtain ⟨hm, hl⟩ := List.mem_filter.1 h
  obtain ⟨r, hr, hid, hst⟩ := cache_from_runtime c pods rt k hm
  exact ⟨r, hr, hid, hst ▸ hl⟩

/-- a saved copy in a listed pod takes the runtime's state; one in an unlisted pod is purged with its pod and the
runtime's container inserted -/
theorem listed_live_allocated (c : Cache) (pods : List String) (rt : List Ctr) (r : Ctr)
    (hf : rt.find? (fun x => x.id == r.id) = some r) (hl : live r.state = true) (hp : pods.contains r.pod = true) :
    ∃ k ∈ (sync c pods rt).allocated, k.id = r.id := by
  simp only [sync, refreshPods, refreshCtrs, List.mem_filter, List.mem_append, List.mem_filterMap]
  by_cases hk : ∃ k ∈ c.ctrs, pods.contains k.pod = true ∧ k.id = r.id
  · obtain ⟨k, hkm, hkp, hkid⟩ := hk
    exact ⟨{ k with state := r.state }, ⟨Or.inl ⟨k, ⟨hkm, hkp⟩, by rw [hkid, hf]; rfl⟩, hl⟩, hkid⟩
  · refine ⟨r, ⟨Or.inr ⟨List.mem_of_find?_eq_some hf, ?_⟩, hl⟩, rfl⟩
    simp only [Bool.and_eq_true, Bool.not_eq_true', hp, and_true, List.any_eq_false, List.mem_filter, beq_iff_eq]
    exact fun x hx he => hk ⟨x, hx.1, hx.2, he⟩

/-- `hc` (the saved copy, if any, belongs to a listed pod) is not needed -/
theorem allocated_complete (c : Cache) (pods : List String) (rt : List Ctr) (r : Ctr)
    (hf : rt.find? (fun x => x.id == r.id) = some r) (hl : live r.state = true) (hp : pods.contains r.pod = true)
    (hc : ∀ k ∈ c.ctrs, k.id = r.id → pods.contains k.pod = true) :
    ∃ k ∈ (sync c pods rt).allocated, k.id = r.id :=
  listed_live_allocated c pods rt r hf hl hp

theorem cache_subset_runtime (c : Cache) (pods : List String) (rt : List Ctr) (k : Ctr)
    (h : k ∈ (sync c pods rt).cache.ctrs) : ∃ r ∈ rt, r.id = k.id :=
  (cache_from_runtime c pods rt k h).imp fun _ hr => ⟨hr.1, hr.2.1⟩

theorem pods_exact (c : Cache) (pods : List String) (rt : List Ctr) : (sync c pods rt).cache.pods = pods := rfl

theorem purged_released (c : Cache) (pods : List String) (rt : List Ctr) (k : Ctr) (hk : k ∈ c.ctrs)
    (h : pods.contains k.pod = false ∨ rt.any (fun r => r.id == k.id) = false) : k ∈ (sync c pods rt).released := by
  simp only [sync, refreshPods, refreshCtrs, List.mem_append, List.mem_filter, Bool.not_eq_true']
  cases hp : pods.contains k.pod with
  | false => exact Or.inl (Or.inl ⟨hk, rfl⟩)
  | true => exact Or.inl (Or.inr ⟨⟨hk, rfl⟩, h.resolve_left (by rw [hp]; nofun)⟩)

theorem stopped_released (c : Cache) (pods : List String) (rt : List Ctr) (k : Ctr)
    (h : k ∈ (sync c pods rt).cache.ctrs) (hs : k.state = .stopped) :
    k ∈ (sync c pods rt).released ∧ k ∉ (sync c pods rt).allocated := by
  refine ⟨List.mem_append_right _ (List.mem_filter.2 ⟨h, by rw [hs]; rfl⟩), fun ha => ?_⟩
  have := (List.mem_filter.1 ha).2
  rw [hs] at this
  cases this

/-- the pre-fix behaviour (saved state kept for known containers): a container saved as running
that has exited is allocated, and one saved in the intermediate `creating` state that the runtime
reports as created is not -/
theorem stale_state_refuted :
    (∃ k ∈ (syncStale ⟨["p"], [⟨"c", "p", .running⟩]⟩ ["p"] [⟨"c", "p", .stopped⟩]).allocated, k.id = "c") ∧
    (syncStale ⟨["p"], [⟨"c", "p", .creating⟩]⟩ ["p"] [⟨"c", "p", .created⟩]).allocated = [] :=
  ⟨⟨⟨"c", "p", .running⟩, by decide, rfl⟩, rfl⟩

-- the same two situations with the code's behaviour
example : (sync ⟨["p"], [⟨"c", "p", .running⟩]⟩ ["p"] [⟨"c", "p", .stopped⟩]).allocated = [] ∧
          (sync ⟨["p"], [⟨"c", "p", .creating⟩]⟩ ["p"] [⟨"c", "p", .created⟩]).allocated = [⟨"c", "p", .created⟩] := ⟨rfl, rfl⟩

end Nri.Sync
