import Nri.Model.Expr
import Nri.Gen.Operators
/-!
C19 — match expressions and balloon-type selection follow their documented semantics.
Glob matching and `path.Clean` are parameters of every theorem (`kube_system_reserved` asks of the glob
function that the literal pattern matches itself); the evaluation theorems speak of containers whose pod exists.
-/
namespace Nri.Expr

/-- regenerated facts: operator names, the keys accepted by `validateKey`, the keys the two
`EvalKey`s resolve, and whether pod.EvalKey converts the QoS class to `string`. -/
theorem gen_operators_ok :
    Nri.Gen.Expr.operators = ["AlwaysTrue", "Equals", "Exists", "In", "Matches", "MatchesAny", "MatchesNone", "MatchesNot", "NotEqual", "NotExist", "NotIn"] ∧
    Nri.Gen.Expr.validatedScalarKeys = ["id", "uid", "name", "namespace", "qosclass"] ∧
    Nri.Gen.Expr.containerKeys = ["pod", "name", "namespace", "qosclass", "labels", "tags", "id"] ∧
    Nri.Gen.Expr.podKeys = ["name", "namespace", "qosclass", "labels", "id", "uid"] ∧
    Nri.Gen.Expr.podQosIsString = true ∧
    Nri.Gen.Expr.userWeightCutoff = 1000 := ⟨rfl, rfl, rfl, rfl, rfl, rfl⟩

variable (q : Bool) (glob : String → String → Bool) (clean : String → String)

/-! ### the four operator pairs are exact negations of each other -/

theorem in_notIn (k : String) (vs : List String) (c : Ctr) :
    evaluate q glob clean ⟨k, .notIn, vs⟩ c = !evaluate q glob clean ⟨k, .in_, vs⟩ c := by
  simp [evaluate]

theorem matches_matchesNot (k : String) (vs : List String) (c : Ctr) :
    evaluate q glob clean ⟨k, .matchesNot, vs⟩ c = !evaluate q glob clean ⟨k, .matches, vs⟩ c := by
  simp [evaluate]

theorem matchesAny_matchesNone (k : String) (vs : List String) (c : Ctr) :
    evaluate q glob clean ⟨k, .matchesNone, vs⟩ c = !evaluate q glob clean ⟨k, .matchesAny, vs⟩ c := by
  simp [evaluate]

theorem exists_notExist (k : String) (vs : List String) (c : Ctr) :
    evaluate q glob clean ⟨k, .notExist, vs⟩ c = !evaluate q glob clean ⟨k, .exists_, vs⟩ c := by
  simp [evaluate]

/-- a joint key evaluates to its sub-key values joined by the value separator; unresolved sub
keys contribute the empty string but keep their slot; it "exists" iff some sub key resolves. -/
theorem joint_key_value (c : Ctr) (key : String) (k1 k2 : String) (ks : List String) (vsep : String)
    (h : splitKeys key = (k1 :: k2 :: ks, vsep)) :
    keyValue q clean c key =
      (vsep.intercalate ((k1 :: k2 :: ks).map fun k => match resolve q c (clean k) with | .found v => v | _ => ""),
       (k1 :: k2 :: ks).any fun k => match resolve q c (clean k) with | .found _ => true | _ => false) := by
  unfold keyValue
  rw [h]
  simp only [List.map_map, List.any_map]
  -- componentwise, per sub key: the model's pair-valued matcher against the statement's two matchers
  -- (the congruences are written out: `congr 1` is slow here)
  refine congr (congrArg Prod.mk (congrArg _ (List.map_congr_left fun k _ => ?_)))
    (congrArg _ (funext fun k => ?_))
  all_goals simp only [Function.comp]; cases resolve q c (clean k) <;> rfl

/-- the weight of every user-supplied affinity ends up in [-1000, 1000], also for the int32
corner `MinInt32` whose negation wraps. -/
theorem weight_clamped (w dflt : Int) : -1000 ≤ userWeight w dflt ∧ userWeight w dflt ≤ 1000 := by
  unfold userWeight
  -- the final clamp alone gives the bounds, whatever the sign handling before it produced
  generalize (if w = 0 then dflt else if dflt < 0 then negWrap w else w) = w1
  simp only []
  split
  · decide
  · next h1 =>
    split
    · decide
    · next h2 => exact ⟨Int.not_lt.1 h2, Int.not_lt.1 h1⟩

/-- the scalar keys (as `/`-separated segments) that the two `EvalKey`s resolve to a string. -/
def wellTypedSegs (k : List String) : Bool :=
  k ∈ [["name"], ["namespace"], ["qosclass"], ["id"], ["pod", "name"], ["pod", "namespace"], ["pod", "qosclass"],
       ["pod", "id"], ["pod", "uid"]]

/-- **Partial.** For the scalar keys both subjects implement, a container whose pod exists never
produces a resolution *error* (with the repaired QoS conversion). Map keys (`labels/…`,
`tags/…`, `pod/labels/…`) resolve to found/absent by construction (`loopSegs` on a map). -/
theorem validated_never_fails_partial (c : Ctr) (p : Pod) (hp : c.pod = some p) (k : List String)
    (hk : wellTypedSegs k = true) : resolveSegs true c k ≠ .err ∧ validateSegs k = true := by
  obtain ⟨_, _, _, _, _, _, _⟩ := c
  cases hp
  simp only [wellTypedSegs, List.mem_cons, List.mem_nil_iff, or_false, decide_eq_true_eq] at hk
  -- nine closed keys, both parts by evaluation: whether resolution fails does not depend on the subject's fields
  rcases hk with rfl | rfl | rfl | rfl | rfl | rfl | rfl | rfl | rfl <;> exact ⟨of_decide_eq_true rfl, rfl⟩

theorem loopSegs_map_ne_err (q : Bool) (m : SMap) (segs : List String) : loopSegs q (.map m) segs ≠ .err := by
  unfold loopSegs
  split <;> simp

theorem resolveSegs_cons (q : Bool) (c : Ctr) (pref : String) (rest : List String)
    (h : restEmpty rest = false) : resolveSegs q c (pref :: rest) = loopSegs q (c.evalKey pref) rest := by
  rw [resolveSegs, h]; rfl

theorem loopSegs_pod_cons (q : Bool) (p : Pod) (pref : String) (rest : List String)
    (h : restEmpty rest = false) :
    loopSegs q (.pod p) (pref :: rest) = loopSegs q (p.evalKey q pref) rest := by
  rw [loopSegs, h]; rfl

theorem map_keys_never_fail (c : Ctr) (p : Pod) (hp : c.pod = some p) (k : String) (ks : List String)
    (hk : restEmpty (k :: ks) = false) :
    resolveSegs true c ("labels" :: k :: ks) ≠ .err ∧ resolveSegs true c ("tags" :: k :: ks) ≠ .err ∧
    resolveSegs true c ("pod" :: "labels" :: k :: ks) ≠ .err := by
  have hl : c.evalKey "labels" = .map c.labels := by simp only [Ctr.evalKey]
  have ht : c.evalKey "tags" = .map c.tags := by simp only [Ctr.evalKey]
  have hpod : c.evalKey "pod" = .pod p := by simp only [Ctr.evalKey, hp]
  have hpl : p.evalKey true "labels" = .map p.labels := by simp only [Pod.evalKey]
  refine ⟨?_, ?_, ?_⟩
  · rw [resolveSegs_cons _ _ _ _ hk, hl]; exact loopSegs_map_ne_err true c.labels (k :: ks)
  · rw [resolveSegs_cons _ _ _ _ hk, ht]; exact loopSegs_map_ne_err true c.tags (k :: ks)
  · rw [resolveSegs_cons _ _ _ _ (by simp [restEmpty]), hpod, loopSegs_pod_cons _ _ _ _ hk, hpl]
    exact loopSegs_map_ne_err true p.labels (k :: ks)

/-- The full statement "validated ⇒ never fails" is FALSE (known finding): `uid`, `pod/pod/name`
and `pod/tags/x` pass validation but cannot be resolved for a container. -/
theorem validated_never_fails_refuted :
    let p : Pod := ⟨"p", "ns", "Burstable", "pid", "puid", []⟩
    let c : Ctr := ⟨"c", "ns", "Burstable", "cid", [], [], some p⟩
    (validateSegs ["uid"] = true ∧ resolveSegs true c ["uid"] = .err) ∧
    (validateSegs ["pod", "pod", "name"] = true ∧ resolveSegs true c ["pod", "pod", "name"] = .err) ∧
    (validateSegs ["pod", "tags", "x"] = true ∧ resolveSegs true c ["pod", "tags", "x"] = .err) := by
  decide

/-- before the repair `pod/qosclass` validated but always failed to resolve; with the QoS class
converted to a string it resolves. -/
theorem pod_qosclass_resolves (c : Ctr) (p : Pod) (hp : c.pod = some p) :
    resolveSegs false c ["pod", "qosclass"] = .err ∧ resolveSegs true c ["pod", "qosclass"] = .found p.qosclass := by
  obtain ⟨_, _, _, _, _, _, _⟩ := c
  cases hp
  exact ⟨rfl, rfl⟩

theorem choose_annotation (defs : List BalloonDef) (dflt n : String) (c : Ctr) :
    chooseBalloonDef q glob clean defs dflt (some n) c =
      if defs.any (·.name == n) then .def_ n else .error := rfl

def defMatches (d : BalloonDef) (c : Ctr) : Bool :=
  d.exprs.any (fun e => evaluate q glob clean e c) || d.namespaces.any (fun p => glob p c.ns)

theorem choose_none (defs : List BalloonDef) (dflt : String) (c : Ctr) :
    chooseBalloonDef q glob clean defs dflt none c =
      match defs.find? (defMatches q glob clean · c) with
      | some d => .def_ d.name
      | none => .def_ dflt := rfl

/-- without an annotation the first type in configured order that matches wins … -/
theorem choose_first_match (pre post : List BalloonDef) (d : BalloonDef) (dflt : String) (c : Ctr)
    (hpre : ∀ x ∈ pre, defMatches q glob clean x c = false) (hd : defMatches q glob clean d c = true) :
    chooseBalloonDef q glob clean (pre ++ d :: post) dflt none c = .def_ d.name := by
  rw [choose_none, List.find?_append, List.find?_eq_none.2 fun x hx => by simp [hpre x hx],
    List.find?_cons_of_pos (p := (defMatches q glob clean · c)) hd]
  rfl

/-- … and the default type otherwise. -/
theorem choose_default (defs : List BalloonDef) (dflt : String) (c : Ctr)
    (h : ∀ x ∈ defs, defMatches q glob clean x c = false) :
    chooseBalloonDef q glob clean defs dflt none c = .def_ dflt := by
  rw [choose_none, List.find?_eq_none.2 fun x hx => by simp [h x hx]]

theorem fillBuiltin_head (userDefs : List BalloonDef) (reservedNs : List String)
    (hno : userDefs.any (·.name == "reserved") = false) :
    ∃ post, fillBuiltin userDefs reservedNs = ⟨"reserved", [], "kube-system" :: reservedNs⟩ :: post := by
  unfold fillBuiltin
  simp only [hno, Bool.false_eq_true, if_false]
  split <;> exact ⟨_, rfl⟩

/-- a namespace matched by "kube-system" or by one of the reserved-namespace patterns gets the
implicit reserved type, which precedes every user type when the user did not define "reserved". -/
theorem reserved_namespace_reserved (userDefs : List BalloonDef) (reservedNs : List String) (dflt : String)
    (c : Ctr) (hno : userDefs.any (·.name == "reserved") = false) (p : String)
    (hp : p ∈ "kube-system" :: reservedNs) (hglob : glob p c.ns = true) :
    chooseBalloonDef q glob clean (fillBuiltin userDefs reservedNs) dflt none c = .def_ "reserved" := by
  obtain ⟨post, hfill⟩ := fillBuiltin_head userDefs reservedNs hno
  rw [hfill]
  exact choose_first_match q glob clean [] post _ dflt c nofun
    (Bool.or_eq_true_iff.2 (Or.inr (List.any_eq_true.2 ⟨p, hp, hglob⟩)))

/-- `hno`: the user defined no type called "reserved"; `hglob`: any glob function for which the literal
pattern matches itself -/
theorem kube_system_reserved (userDefs : List BalloonDef) (reservedNs : List String) (dflt : String) (c : Ctr)
    (hno : userDefs.any (·.name == "reserved") = false) (hns : c.ns = "kube-system")
    (hglob : glob "kube-system" "kube-system" = true) :
    chooseBalloonDef q glob clean (fillBuiltin userDefs reservedNs) dflt none c = .def_ "reserved" :=
  reserved_namespace_reserved q glob clean userDefs reservedNs dflt c hno "kube-system"
    List.mem_cons_self (hns ▸ hglob)

example : validateSegs ["pod", "labels", "a"] = true := by decide

end Nri.Expr
