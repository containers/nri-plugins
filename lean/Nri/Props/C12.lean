import Nri.Model.ApplyGrant
import Nri.Gen.BalloonPinFacts
import Nri.Gen.PipeFacts
/-!
C12 — opt-outs are honoured: which cgroup fields the topology-aware policy and the balloons policy write to a container.
-/
namespace Nri.TA

/-- regenerated fact: the Set* calls of `applyGrant` with the conditions guarding them -/
theorem gen_applygrant_ok : Nri.Gen.Pipe.applyGrantWrites =
    ["setPreferredCpusetCpus: opt.PinCPU & !(cpuType == cpuPreserve) & cpus.Size() > 0",
     "SetCpusetCpus: opt.PinCPU & !(cpuType == cpuPreserve) & !(cpus.Size() > 0)",
     "SetCPUShares: opt.PinCPU",
     "SetCpusetMems: !(grant.MemoryType() == memoryPreserve)"] := rfl

/-- the write set of `applyGrant`, guard by guard as in `gen_applygrant_ok` -/
theorem mem_applyGrantWrites {f : Field} {pinCPU : Bool} {ct : CpuType} {memPreserve : Bool} :
    f ∈ applyGrantWrites pinCPU ct memPreserve ↔
      pinCPU = true ∧ (ct ≠ .preserve ∧ f = .cpus ∨ f = .shares) ∨ memPreserve = false ∧ f = .mems := by
  simp only [applyGrantWrites, List.mem_append, List.mem_ite_nil_right, List.mem_ite_nil_left, List.mem_singleton,
    beq_iff_eq, Bool.not_eq_true, ne_eq]

theorem mem_updateSharedWrites {f : Field} {pinCPU : Bool} {ct : CpuType} {sp : Nat} :
    f ∈ updateSharedWrites pinCPU ct sp ↔ ct ≠ .reserved ∧ ct ≠ .preserve ∧ sp ≠ 0 ∧ pinCPU = true ∧ f = .cpus := by
  simp only [updateSharedWrites, List.mem_ite_nil_left, List.mem_ite_nil_right, List.mem_singleton, Bool.or_eq_true,
    beq_iff_eq, not_or, ne_eq, and_assoc]

/-- a container opted out of CPU pinning (cpu.preserve ⇒ CPU class `preserve`) is never told a
CPU set, under any configuration … -/
theorem preserved_cpu_never_written (pinCPU memPreserve : Bool) (sp : Nat) :
    Field.cpus ∉ applyGrantWrites pinCPU .preserve memPreserve ∧ Field.cpus ∉ updateSharedWrites pinCPU .preserve sp :=
  ⟨by simp [mem_applyGrantWrites], fun h => (mem_updateSharedWrites.1 h).2.1 rfl⟩

/-- … nor is anybody when CPU pinning is disabled in the configuration -/
theorem unpinned_cpu_never_written (ct : CpuType) (memPreserve : Bool) (sp : Nat) :
    Field.cpus ∉ applyGrantWrites false ct memPreserve ∧ Field.cpus ∉ updateSharedWrites false ct sp :=
  ⟨by simp [mem_applyGrantWrites], fun h => nomatch (mem_updateSharedWrites.1 h).2.2.2.1⟩

/-- a container opted out of memory pinning is never told memory nodes -/
theorem preserved_mem_never_written (pinCPU : Bool) (ct : CpuType) :
    Field.mems ∉ applyGrantWrites pinCPU ct true := by
  simp [mem_applyGrantWrites]

/-- with memory pinning disabled the value written is the empty mask ("do not pin"), whatever
the zone -/
theorem unpinned_mem_value (zone : Nat) (zs : Nat → String) : memsValue false zone zs = zs 0 := rfl

end Nri.TA

namespace Nri.BalloonsPin
open Nri.TA (Field)

/-- the write set of `AllocateResources` / `pinCpuMem` -/
theorem mem_allocateWrites {f : Field} {ann rule pinCPU pm mp : Bool} {pt : Option Bool} :
    f ∈ allocateWrites ann rule pinCPU pm pt mp ↔ ann = false ∧ rule = false ∧
      (pinCPU = true ∧ (f = .cpus ∨ f = .shares) ∨ pt.getD pm = true ∧ mp = false ∧ f = .mems) := by
  simp only [allocateWrites, List.mem_ite_nil_left, List.mem_append, List.mem_ite_nil_right, List.mem_cons, List.not_mem_nil,
    or_false, Bool.or_eq_true, not_or, Bool.not_eq_true, and_assoc]

/-- a container opted out of CPU pinning - by annotation or by a matching preserve rule - is written nothing at all -/
theorem balloons_cpu_optout_written_nothing (rule ann pinCPU pm : Bool) (pt : Option Bool) (mp : Bool) (h : ann = true ∨ rule = true) :
    allocateWrites ann rule pinCPU pm pt mp = [] := by
  rcases h with h | h <;> simp [allocateWrites, h]

/-- with CPU pinning disabled nobody is told a CPU set -/
theorem balloons_unpinned_cpu_never_written (ann rule pm : Bool) (pt : Option Bool) (mp : Bool) :
    Field.cpus ∉ allocateWrites ann rule false pm pt mp := by
  simp [mem_allocateWrites]

/-- a container opted out of memory pinning (memory.preserve) is never told memory nodes - neither when it is
admitted nor when another container's allocation widens its zone (the defect repaired by fix aca789f was
exactly that both writes existed) -/
theorem balloons_preserved_mem_never_written (ann rule pinCPU pm : Bool) (pt : Option Bool) :
    Field.mems ∉ allocateWrites ann rule pinCPU pm pt true ∧ Field.mems ∉ updateWrites true :=
  ⟨by simp [mem_allocateWrites], by decide⟩

/-- memory pinning disabled for the balloon type (or globally, with no type-level override): no memory nodes are told -/
theorem balloons_unpinned_mem_never_written (ann rule pinCPU pm mp : Bool) (pt : Option Bool) (h : pt.getD pm = false) :
    Field.mems ∉ allocateWrites ann rule pinCPU pm pt mp := by
  simp [mem_allocateWrites, h]

end Nri.BalloonsPin

/-! ### source shapes the model was written against (BalloonPinFacts.lean; the regenerated facts must equal them) -/
namespace Nri.BalloonsPin.Expectgen_balloon_pin_facts_ok
def pinCpuMem : List String := ["if p.bpoptions.PinCPU == nil || *p.bpoptions.PinCPU", "> c.SetCpusetCpus(cpus.String())", "> if reqCpu, ok := c.GetResourceRequirements().Requests[corev1.ResourceCPU]; ok", "> > c.SetCPUShares(int64(cache.MilliCPUToShares(int64(mCpu))))", "pinMemory := p.bpoptions.PinMemory == nil || *p.bpoptions.PinMemory", "if blnDefPinMemory != nil", "> pinMemory = *blnDefPinMemory", "if pinMemory", "> if c.PreserveMemoryResources()", "> > if err != nil", "> > else", "> > > zone := p.allocMem(c, preserveMems, 0, true)", "> else", "> > zone := p.allocMem(c, mems, effMemTypeMask, false)", "> > c.SetCpusetMems(zone.MemsetString())"]
def allocMem : List String := ["if _, ok := p.memAllocator.AssignedZone(c.GetID()); !ok", "> if preserve", "> > req = libmem.PreservedContainer( c.GetID(), c.PrettyName(), amount, nodes, )", "> else", "> > req = libmem.ContainerWithTypes( c.GetID(), c.PrettyName(), string(c.GetQOSClass()), amount, nodes, types, )", "> zone, updates, err = p.memAllocator.Allocate(req)", "else", "> zone, updates, err = p.memAllocator.Realloc(c.GetID(), nodes, types)", "if err != nil", "> return nodes", "range updates", "> if oc, ok := p.cch.LookupContainer(oID); ok", "> > if oc.PreserveMemoryResources()", "> > > continue", "> > oc.SetCpusetMems(oz.MemsetString())", "return zone"]
def updatePinning : List String := ["range blns", "> var allowedCpus cpuset.CPUSet", "> range bln.ContainerIDs()", "> > if c, ok := p.cch.LookupContainer(cID); ok", "> > > if runWithoutHyperthreads(c, bln)", "> > > > allowedCpus = cpusNoHt", "> > > else", "> > > > allowedCpus = pinnableCpus", "> > > p.pinCpuMem(c, allowedCpus, bln.Mems, bln.memTypeMask, bln.Def.PinMemory)"]
end Nri.BalloonsPin.Expectgen_balloon_pin_facts_ok

namespace Nri.BalloonsPin

/-- the regenerated statement skeletons of the balloons policy's writes are the ones allocateWrites / updateWrites follow: pinCpuMem writes cpuset and shares under PinCPU, decides memory pinning from the policy-level setting overridden by the balloon type's, accounts the memory of a preserving container WITHOUT writing its cpuset.mems and writes the zone otherwise; allocMem's loop over the allocator's updates skips containers that preserve their memory resources; updatePinning re-pins the members of the given balloons through pinCpuMem (the cpu.preserve / preserve-rule early returns of AllocateResources are pinned by C02's gen_balloon_req_facts_ok) -/
theorem gen_balloon_pin_facts_ok :
    Nri.Gen.BalloonPin.pinCpuMem = Expectgen_balloon_pin_facts_ok.pinCpuMem ∧
    Nri.Gen.BalloonPin.allocMem = Expectgen_balloon_pin_facts_ok.allocMem ∧
    Nri.Gen.BalloonPin.updatePinning = Expectgen_balloon_pin_facts_ok.updatePinning := by
  and_intros <;> rfl

end Nri.BalloonsPin
