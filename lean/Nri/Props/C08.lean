import Nri.Model.CpuAlloc
import Nri.Gen.CpuAllocLoops
import Nri.Gen.CpuAllocFacts
import Nri.Proofs.Logic
/-!
C08 — CPU allocator contract: exact count, subset, set bookkeeping.
Theorems hold for every candidate order/comparator, set and count, and for every topology in that a stage is
characterised only by the candidate sets it may take.  They speak of runs that end in the thread stage; the
dispatcher's branch without topology information (`takeAny`) is modelled, and no theorem mentions it.
-/
namespace Nri.CpuAlloc

/-- regenerated facts: the `take*` calls of `allocate()` in source order, the front-end's three cases, and
that the `range`s over maps in the package are exactly the reviewed, order-insensitive ones (determinism). -/
theorem gen_cpualloc_facts_ok :
    Nri.Gen.CpuAlloc.dispatch = ["takeIdlePackages", "takeIdleClusters", "takeCacheGroups", "takeCacheGroups", "takeIdleCores", "takeIdleThreads", "takeAny"] ∧
    Nri.Gen.CpuAlloc.frontEndCases = ["from.Size() < cnt", "from.Size() == cnt", "default"] ∧
    Nri.Gen.CpuAlloc.mapRanges = Nri.Gen.CpuAlloc.expectedMapRanges := ⟨rfl, rfl, rfl⟩

theorem perm_take (l c : List Nat) (hl : l.Nodup) (hc : c.Nodup) (hsub : ∀ x ∈ c, x ∈ l) :
    List.Perm l (c ++ l.filter (fun x => !c.contains x)) := by
  have h : List.Perm (l.filter (fun x => c.contains x)) c := by
    rw [List.perm_ext_iff_of_nodup (hl.filter _) hc]
    exact fun a => mem_inter.trans ⟨And.right, fun h => ⟨hsub a h, h⟩⟩
  exact (List.filter_append_perm _ l).symm.trans (h.append_right _)

/-- what the invariant says about the sets, at every stage: `from` and `result` partition `from0` -/
theorem inv_partition (from0 : List Nat) (n : Nat) (h0 : from0.Nodup) (s : State) (h : Inv from0 n s) :
    s.from_.Nodup ∧ s.from_.length + s.result.length = from0.length ∧ s.result.Nodup ∧
    (∀ x ∈ s.result, x ∈ from0) ∧ (∀ x, x ∈ s.from_ ↔ x ∈ from0 ∧ x ∉ s.result) := by
  obtain ⟨hr, hf, hdisj⟩ := List.nodup_append.1 (h.1.nodup_iff.1 h0)
  have hmem : ∀ x, x ∈ from0 ↔ x ∈ s.result ∨ x ∈ s.from_ := fun x => h.1.mem_iff.trans List.mem_append
  refine ⟨hf, (h.1.length_eq.trans (List.length_append.trans (Nat.add_comm _ _))).symm, hr,
    fun x hx => (hmem x).2 (Or.inl hx),
    fun x => ⟨fun hx => ⟨(hmem x).2 (Or.inr hx), fun hxr => hdisj x hxr x hx rfl⟩, ?_⟩⟩
  rintro ⟨hx, hnr⟩
  exact ((hmem x).1 hx).resolve_left hnr

theorem take_inv (from0 : List Nat) (n : Nat) (h0 : from0.Nodup) (s : State) (c : List Nat)
    (hinv : Inv from0 n s) (hc : c.Nodup) (hsub : ∀ x ∈ c, x ∈ s.from_) (hlen : c.length ≤ s.cnt) :
    Inv from0 n (take s c) := by
  constructor
  · -- from0 ~ result ++ from ~ result ++ (c ++ from \ c) = (result ++ c) ++ from \ c
    have := perm_take s.from_ c (inv_partition from0 n h0 s hinv).1 hc hsub
    rw [take, List.append_assoc]
    exact hinv.1.trans (this.append_left _)
  · simp only [take, List.length_append]
    rw [Nat.add_left_comm, Nat.sub_add_cancel hlen, Nat.add_comm]; exact hinv.2

/-- every stage that takes an admissible selection of candidate sets (idle packages, idle
cores, in any preference order) satisfies the stage contract. -/
theorem stage_sets_ok (from0 : List Nat) (n : Nat) (h0 : from0.Nodup) (s : State) (T : List (List Nat))
    (ha : admissible s T = true) : StageOK from0 n s (takeAll s T) := by
  induction T generalizing s with
  | nil => exact id
  | cons c cs ih =>
    simp only [admissible, Bool.and_eq_true, decide_eq_true_eq, List.all_eq_true, List.contains_iff_mem] at ha
    obtain ⟨⟨⟨hc, hsub⟩, hlen⟩, hrest⟩ := ha
    exact fun h => ih _ hrest (take_inv from0 n h0 s c h hc hsub hlen)

theorem threads_ok (from0 : List Nat) (n : Nat) (h0 : from0.Nodup) (s : State) (order : List Nat)
    (hord : order.Nodup) (hsub : ∀ x ∈ order, x ∈ s.from_) (h : Inv from0 n s) :
    Inv from0 n (takeThreads s order) ∧ (s.cnt ≤ order.length → (takeThreads s order).cnt = 0) := by
  constructor
  · exact take_inv from0 n h0 s _ h (hord.sublist (List.take_sublist _ _))
      (fun x hx => hsub x (List.mem_of_mem_take hx)) (List.length_take_le _ _)
  · intro hle
    simp only [takeThreads, take, List.length_take]
    exact Nat.sub_eq_zero_of_le (Nat.le_min.2 ⟨Nat.le_refl _, hle⟩)

theorem threads_exhaust (from0 : List Nat) (n : Nat) (h0 : from0.Nodup) (hn : n ≤ from0.length)
    (mid : State) (hmid : Inv from0 n mid) (order : List Nat) (hperm : List.Perm order mid.from_) :
    Inv from0 n (takeThreads mid order) ∧ (takeThreads mid order).cnt = 0 := by
  obtain ⟨hfn, hlen, -⟩ := inv_partition from0 n h0 mid hmid
  have := threads_ok from0 n h0 mid order (hperm.nodup_iff.2 hfn) (fun x => hperm.mem_iff.1) hmid
  -- cnt + |result| = n ≤ |from0| = |from| + |result|
  refine ⟨this.1, this.2 (Nat.le_of_add_le_add_right (b := mid.result.length) ?_)⟩
  rw [hperm.length_eq, hmid.2, hlen]
  exact hn

theorem exhausted_contract (from0 : List Nat) (n : Nat) (h0 : from0.Nodup) (s : State) (h : Inv from0 n s)
    (hz : s.cnt = 0) :
    finish s = s.result ∧ s.result.length = n ∧ s.result.Nodup ∧
    (∀ x ∈ s.result, x ∈ from0) ∧ (∀ x, x ∈ s.from_ ↔ x ∈ from0 ∧ x ∉ s.result) :=
  ⟨if_pos hz, by rw [← h.2, hz, Nat.zero_add], (inv_partition from0 n h0 s h).2.2⟩

/-- **Allocation contract.** Let the helper's run be ANY sequence of contract-abiding stages (they keep
`Inv`: `stage_sets_ok`, `foldStage_ok`; the statement asks only for `Inv mid`) followed by the thread stage
over all CPUs still in `from` (all online).  Then for `n ≤ |set|`:
exactly `n` distinct CPUs are returned, all taken from the set, and the set that is written
back is the original minus exactly those. -/
theorem allocate_contract (from0 : List Nat) (n : Nat) (h0 : from0.Nodup) (hn : n ≤ from0.length)
    (mid : State) (hmid : Inv from0 n mid) (order : List Nat) (hperm : List.Perm order mid.from_) :
    let post := takeThreads mid order
    finish post = post.result ∧ post.result.length = n ∧ post.result.Nodup ∧
    (∀ x ∈ post.result, x ∈ from0) ∧ (∀ x, x ∈ post.from_ ↔ x ∈ from0 ∧ x ∉ post.result) := by
  obtain ⟨hinv, hz⟩ := threads_exhaust from0 n h0 hn mid hmid order hperm
  exact exhausted_contract from0 n h0 _ hinv hz

theorem inv_init (from0 : List Nat) (n : Nat) : Inv from0 n { from_ := from0, result := [], cnt := n } :=
  ⟨List.Perm.refl _, rfl⟩

theorem too_many_fails_unchanged (alloc : State → State) (from0 : List Nat) (n : Nat) (h : from0.length < n) :
    allocateCpus alloc from0 n = (none, from0) := if_pos h

theorem exact_takes_all (alloc : State → State) (from0 : List Nat) :
    allocateCpus alloc from0 from0.length = (some from0, []) := by
  simp [allocateCpus]

/-- the default case of the front end, for a helper run that exhausts the count: `result` is returned and the
remaining `from` written back (what they are is `exhausted_contract`) -/
theorem allocateCpus_exhausted (alloc : State → State) (from0 : List Nat) (n : Nat) (h : n < from0.length)
    (hz : (alloc ⟨from0, [], n⟩).cnt = 0) :
    allocateCpus alloc from0 n = (some (alloc ⟨from0, [], n⟩).result, (alloc ⟨from0, [], n⟩).from_) := by
  rw [allocateCpus, if_neg (Nat.lt_asymm h), if_neg (Nat.ne_of_gt h)]
  exact congrArg (fun r => (some r, _)) (if_pos hz)

/-- **The front end's contract**, for every count the set can serve: if the helper's run ends in the
thread stage over all CPUs still in `from`, `AllocateCpus(set, n)` returns exactly `n` CPUs of the set and
writes back the rest, without losing or inventing any. -/
theorem allocateCpus_contract (from0 : List Nat) (n : Nat) (h0 : from0.Nodup) (hn : n ≤ from0.length)
    (alloc : State → State)
    (halloc : ∃ mid order, Inv from0 n mid ∧ List.Perm order mid.from_ ∧ alloc ⟨from0, [], n⟩ = takeThreads mid order) :
    ∃ got left, allocateCpus alloc from0 n = (some got, left) ∧ got.length = n ∧ List.Perm from0 (got ++ left) := by
  rcases Nat.lt_or_eq_of_le hn with hlt | rfl
  · obtain ⟨mid, order, hmid, hperm, heq⟩ := halloc
    obtain ⟨hinv, hz⟩ := threads_exhaust from0 n h0 hn mid hmid order hperm
    rw [← heq] at hinv hz
    exact ⟨_, _, allocateCpus_exhausted alloc from0 n hlt hz, (exhausted_contract from0 n h0 _ hinv hz).2.1, hinv.1⟩
  · exact ⟨from0, [], exact_takes_all alloc from0, rfl, by rw [List.append_nil]⟩

/-- **Release contract.** Releasing `n ≤ |set|` CPUs (with a contract-abiding helper) splits the
set into `|set| - n` returned CPUs and `n` CPUs left in the set, without losing or inventing any. -/
theorem release_contract (from0 : List Nat) (n : Nat) (h0 : from0.Nodup) (hn : n ≤ from0.length) (hpos : 0 < n)
    (alloc : State → State)
    (halloc : ∀ s, Inv from0 (from0.length - n) s → ∃ mid order, Inv from0 (from0.length - n) mid ∧
        List.Perm order mid.from_ ∧ alloc s = takeThreads mid order) :
    ∃ kept left, releaseCpus alloc from0 n = (some kept, left) ∧ kept.length = from0.length - n ∧
      left.length = n ∧ List.Perm from0 (kept ++ left) := by
  obtain ⟨kept, left, heq, hlen, hperm⟩ := allocateCpus_contract from0 _ h0 (Nat.sub_le _ n) alloc
    (halloc _ (inv_init from0 (from0.length - n)))
  refine ⟨kept, left, heq, hlen, ?_, hperm⟩
  have := hperm.length_eq
  rw [List.length_append, hlen] at this
  exact Nat.add_left_cancel (this.symm.trans (Nat.sub_add_cancel hn).symm)

-- the hypothesis of `stage_sets_ok` is met: two admissible candidate sets, and what taking them leaves
example : admissible ⟨[0,1,2,3,4,5], [], 4⟩ [[0,1],[4,5]] = true := rfl
example : takeAll ⟨[0,1,2,3,4,5], [], 4⟩ [[0,1],[4,5]] = ⟨[2,3], [0,1,4,5], 0⟩ := rfl

/-- candidate sets that are duplicate-free, inside `from`, and pairwise disjoint - what the idle-package /
idle-core filters produce on a well-formed topology (packages, and cores, partition the CPUs) -/
def Candidates (s : State) (cands : List (List Nat)) : Prop :=
  (∀ c ∈ cands, c.Nodup ∧ ∀ x ∈ c, x ∈ s.from_) ∧ cands.Pairwise (fun a b => ∀ x, x ∈ a → x ∉ b)

theorem candidates_after_take (s : State) (c : List Nat) (cs : List (List Nat)) (h : Candidates s (c :: cs)) :
    Candidates (take s c) cs := by
  have hpw := List.pairwise_cons.1 h.2
  exact ⟨fun d hd => ⟨(h.1 d (List.mem_cons_of_mem _ hd)).1, fun x hx =>
    mem_diff.2 ⟨(h.1 d (List.mem_cons_of_mem _ hd)).2 x hx, fun hxc => hpw.1 d hd x hxc hx⟩⟩, hpw.2⟩

/-- takeIdlePackages / takeIdleCores as written keep the invariant, whatever order the comparator put the
candidates in -/
theorem foldStage_inv (from0 : List Nat) (n : Nat) (h0 : from0.Nodup) (cands : List (List Nat)) :
    ∀ s, Inv from0 n s → Candidates s cands → Inv from0 n (foldStage cands s) := by
  induction cands with
  | nil => intro s h _; exact h
  | cons c cs ih =>
    intro s h hc
    rw [foldStage]
    split
    · have hinv := take_inv from0 n h0 s c h (hc.1 c List.mem_cons_self).1 (hc.1 c List.mem_cons_self).2 ‹_›
      split
      · exact hinv
      · exact ih _ hinv (candidates_after_take s c cs hc)
    · exact ih s h ⟨fun d hd => hc.1 d (List.mem_cons_of_mem _ hd), (List.pairwise_cons.1 hc.2).2⟩

theorem foldStage_ok (from0 : List Nat) (n : Nat) (h0 : from0.Nodup) (s : State) (cands : List (List Nat))
    (hc : Candidates s cands) : StageOK from0 n s (foldStage cands s) :=
  fun h => foldStage_inv from0 n h0 cands s h hc

theorem take_nil (s : State) : take s [] = s := by
  cases s; simp [take]

theorem take_take (s : State) (a b : List Nat) : take (take s a) b = take s (a ++ b) := by
  simp only [take, List.filter_filter, List.append_assoc, List.length_append, Nat.sub_sub, State.mk.injEq, and_true]
  congr 1; funext x; simp [Bool.and_comm]

/-- the loop of takeIdleThreads as written is the thread stage; `0 < s.cnt` is the guard `a.cnt > 0` under
which `allocate()` calls it -/
theorem threadStage_eq_takeThreads (order : List Nat) :
    ∀ s : State, 0 < s.cnt → threadStage order s = takeThreads s order := by
  induction order with
  | nil => intro s _; rw [threadStage, takeThreads, List.take_nil, take_nil]
  | cons x xs ih =>
    intro s hpos
    rw [threadStage, takeThreads, List.take_cons hpos]
    split
    · rename_i h0; rw [show s.cnt - 1 = 0 from h0, List.take_zero]
    · rw [ih _ (Nat.pos_of_ne_zero ‹_›), takeThreads, take_take]; rfl

theorem threadStage_inv (from0 : List Nat) (n : Nat) (h0 : from0.Nodup) (order : List Nat) :
    ∀ s, Inv from0 n s → 0 < s.cnt → order.Nodup → (∀ x ∈ order, x ∈ s.from_) →
      Inv from0 n (threadStage order s) ∧ (s.cnt ≤ order.length → (threadStage order s).cnt = 0) := by
  intro s h hpos hnd hsub
  rw [threadStage_eq_takeThreads order s hpos]
  exact threads_ok from0 n h0 s order hnd hsub h

-- two idle 2-thread cores and a busy one, 3 CPUs wanted: core {4,5} is taken, core {0,1} no longer fits,
-- the thread stage takes one more CPU
example : foldStage [[4, 5], [0, 1]] ⟨[0, 1, 2, 4, 5], [], 3⟩ = ⟨[0, 1, 2], [4, 5], 1⟩ := rfl
example : threadStage [2, 0, 1] ⟨[0, 1, 2], [4, 5], 1⟩ = ⟨[0, 1], [4, 5, 2], 0⟩ := rfl

end Nri.CpuAlloc

/-! ### source shapes the model was written against (CpuAllocLoops.lean; the regenerated facts must equal them) -/
namespace Nri.CpuAlloc.Expectgen_cpualloc_loops_ok
def takeIdlePackages : List String := ["offline := a.sys.Offlined()", "pkgs := pickIds(a.sys.PackageIDs(), func(id idset.ID) bool { cset := a.topology.pkg[id].Difference(offline) if a.prefer < NumCPUPriorities { cset = cset.Intersection(a.topology.cpuPriorities[a.prefer]) } return cset.Intersection(a.from).Equals(cset) })", "range pkgs", "> cset := a.topology.pkg[id].Difference(offline)", "> if a.prefer < NumCPUPriorities", "> > cset = cset.Intersection(a.topology.cpuPriorities[a.prefer])", "> if a.cnt >= cset.Size()", "> > a.result = a.result.Union(cset)", "> > a.from = a.from.Difference(cset)", "> > a.cnt -= cset.Size()", "> > if a.cnt == 0", "> > > break"]
def takeIdleCores : List String := ["offline := a.sys.Offlined()", "cores := pickIds(a.sys.CPUIDs(), func(id idset.ID) bool { cset := a.topology.core[id].Difference(offline) if cset.IsEmpty() { return false } return cset.Intersection(a.from).Equals(cset) && cset.List()[0] == int(id) })", "range cores", "> cset := a.topology.core[id].Difference(offline)", "> if a.cnt >= cset.Size()", "> > a.result = a.result.Union(cset)", "> > a.from = a.from.Difference(cset)", "> > a.cnt -= cset.Size()", "> > if a.cnt == 0", "> > > break"]
def takeIdleThreads : List String := ["offline := a.sys.Offlined()", "cores := pickIds(a.sys.CPUIDs(), func(id idset.ID) bool { return a.from.Difference(offline).Contains(int(id)) })", "range cores", "> cset := a.topology.core[id].Difference(offline)", "> cset = cpuset.New(int(id))", "> a.result = a.result.Union(cset)", "> a.from = a.from.Difference(cset)", "> a.cnt -= cset.Size()", "> if a.cnt == 0", "> > break"]
def takeAny : List String := ["cpus := a.from.List()", "if len(cpus) >= a.cnt", "> cset := cpuset.New(cpus[0:a.cnt]...)", "> a.result = a.result.Union(cset)", "> a.from = a.from.Difference(cset)", "> a.cnt = 0"]
def allocate : List String := ["if a.sys != nil", "> if (a.flags & AllocIdlePackages) != 0", "> > a.takeIdlePackages()", "> if len(a.topology.kind) > 1", "> > if a.cnt > 0 && (a.flags&AllocIdleClusters) != 0", "> > > a.takeIdleClusters()", "> > if a.cnt > 0 && (a.flags&AllocCacheGroups) != 0", "> > > a.takeCacheGroups()", "> else", "> > if a.cnt > 0 && (a.flags&AllocCacheGroups) != 0", "> > > a.takeCacheGroups()", "> if a.cnt > 0 && (a.flags&AllocIdleCores) != 0", "> > a.takeIdleCores()", "> if a.cnt > 0", "> > a.takeIdleThreads()", "else", "> a.takeAny()", "if a.cnt == 0", "> return a.result", "return cpuset.New()"]
def allocateCpus : List String := ["var result cpuset.CPUSet", "switch", "> case from.Size() < cnt", "> > result, err = cpuset.New(), fmt.Errorf(…)", "> case from.Size() == cnt", "> > result, err, *from = from.Clone(), nil, cpuset.New()", "> default", "> > a := newAllocatorHelper(ca.sys, ca.topologyCache)", "> > range options", "> > > if err := o(a); err != nil", "> > > > return cpuset.New(), err", "> > a.from = from.Clone()", "> > a.cnt = cnt", "> > result, err, *from = a.allocate(), nil, a.from.Clone()", "return result, err"]
def releaseCpus : List String := ["oset := from.Clone()", "result, err := ca.allocateCpus(from, from.Size()-cnt, options...)", "return result, err"]
end Nri.CpuAlloc.Expectgen_cpualloc_loops_ok

namespace Nri.CpuAlloc

/-- the regenerated statement skeletons of the stage bodies are the ones the loop models follow: takeIdlePackages / takeIdleCores build their candidates by filter (set restricted to online CPUs - and to the preferred priority class for packages - entirely inside from; a core is represented by its first thread), then take a candidate iff it still fits and break once the count is exhausted (foldStage); takeIdleThreads takes single CPUs of from until the count is exhausted (threadStage); takeAny; the dispatcher allocate() with its cnt > 0 guards and 'result iff cnt == 0'; the front ends allocateCpus (<, ==, default with write-back of the remaining set) and ReleaseCpus (= allocateCpus(from, size - cnt)) -/
theorem gen_cpualloc_loops_ok :
    Nri.Gen.CpuAllocLoops.takeIdlePackages = Expectgen_cpualloc_loops_ok.takeIdlePackages ∧
    Nri.Gen.CpuAllocLoops.takeIdleCores = Expectgen_cpualloc_loops_ok.takeIdleCores ∧
    Nri.Gen.CpuAllocLoops.takeIdleThreads = Expectgen_cpualloc_loops_ok.takeIdleThreads ∧
    Nri.Gen.CpuAllocLoops.takeAny = Expectgen_cpualloc_loops_ok.takeAny ∧
    Nri.Gen.CpuAllocLoops.allocate = Expectgen_cpualloc_loops_ok.allocate ∧
    Nri.Gen.CpuAllocLoops.allocateCpus = Expectgen_cpualloc_loops_ok.allocateCpus ∧
    Nri.Gen.CpuAllocLoops.releaseCpus = Expectgen_cpualloc_loops_ok.releaseCpus := by
  and_intros <;> rfl

end Nri.CpuAlloc
