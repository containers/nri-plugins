import Nri.Model.Balloons
import Nri.Gen.BalloonFacts
import Nri.Gen.BalloonReqFacts
import Nri.Proofs.Logic
/-!
C02 — balloons partition the CPUs and confine their containers.

Proved, for every allowed set, every history of inflate/deflate/delete steps and EVERY choice
the CPU allocator makes within its contract: balloons' CPU sets stay pairwise disjoint subsets
of the allowed CPUs, disjoint from the free set, and together with it cover the allowed CPUs
(`Inv`, `inv_inflate/deflate/delete`, `inv_run`); shared idle CPUs are idle, not isolated and
in no balloon (`shared_spec_sound`); a container's pinning (own CPUs + shared idle CPUs) lies
inside the allowed CPUs and contains no CPU of another balloon (`pinned_confined`).

Request level, for all balloon types with MinCpus ≤ MaxCpus (`DefWF`, enforced by `validateConfig`)
and every history of newBalloon / freeBalloon / AllocateResources / ReleaseResources with every
choice of the fill chain and every allocator pick (`rinv_run`, `inst_run`): every balloon has exactly
the size `sizeSpec` of its type and its members' requests, hence MinCpus ≤ size ≤ MaxCpus
(`limits_hold`) and room for its members (`nonempty_fits`); no container is a member twice; a type
that has MinBalloons..MaxBalloons instances keeps that.  Sizes are `List.length`s; that a CPU list
repeats no CPU is not part of `Inv` (in /repo the allocator's picks are sets).  Membership rests on a
guard of the model's own: `assign` refuses a container that is a member already, where
`AllocateResources` does not look and relies on its callers to release before they allocate.

Hidden hyperthreads, idle sharing over the real CPU tree and CPU classes are evaluated on the
implementation's state after every request of the correspondence run.
-/
namespace Nri.Balloons

theorem gen_balloon_facts_ok :
    Nri.Gen.Balloon.inflateMoves = ["p.freeCpus = p.freeCpus.Difference(newCpus)", "bln.Cpus = bln.Cpus.Union(newCpus)"] ∧
    Nri.Gen.Balloon.deflateMoves = ["p.freeCpus = p.freeCpus.Union(removeFromCpus)", "bln.Cpus = bln.Cpus.Difference(removeFromCpus)"] ∧
    Nri.Gen.Balloon.inflateSource = "bln.cpuTreeAlloc.ResizeCpus(bln.Cpus, p.freeCpus, cpuCountDelta)" ∧
    Nri.Gen.Balloon.shareSkipsIsolated = true ∧
    Nri.Gen.Balloon.pinUnion = "bln.Cpus.Union(bln.SharedIdleCpus)" := ⟨rfl, rfl, rfl, rfl, rfl⟩

theorem inv_init (allowed : List Nat) : Inv (initB allowed) :=
  ⟨fun _ _ h => (by cases h), fun _ _ h => (by cases h), fun _ _ _ _ h => (by cases h), fun _ h => h, fun _ h => Or.inl h⟩

theorem setCpus_same (s : BState) (i : Nat) (v : List Nat) : setCpus s i v i = v := if_pos rfl
theorem setCpus_other (s : BState) (i : Nat) (v : List Nat) {j : Nat} (h : j ≠ i) : setCpus s i v j = s.cpus j := if_neg h

theorem inflate_some {s s' : BState} {i : Nat} {add : List Nat} (hs : inflate s i add = some s') :
    (∀ c ∈ add, c ∈ s.free) ∧ s'.allowed = s.allowed ∧ (∀ j, j ≠ i → s'.cpus j = s.cpus j) ∧
    (∀ c, c ∈ s'.free ↔ c ∈ s.free ∧ c ∉ add) ∧ (∀ c, c ∈ s'.cpus i ↔ c ∈ s.cpus i ∨ c ∈ add) := by
  simp only [inflate, Option.ite_none_right_eq_some, Option.some.injEq, List.all_eq_true, List.contains_iff_mem] at hs
  obtain ⟨hall, rfl⟩ := hs
  exact ⟨hall, rfl, fun j hj => setCpus_other s i _ hj, fun c => mem_diff, fun c => by simp only [setCpus_same, mem_union]⟩

theorem deflate_some {s s' : BState} {i : Nat} {rem : List Nat} (hs : deflate s i rem = some s') :
    (∀ c ∈ rem, c ∈ s.cpus i) ∧ s'.allowed = s.allowed ∧ (∀ j, j ≠ i → s'.cpus j = s.cpus j) ∧
    (∀ c, c ∈ s'.free ↔ c ∈ s.free ∨ c ∈ rem) ∧ (∀ c, c ∈ s'.cpus i ↔ c ∈ s.cpus i ∧ c ∉ rem) := by
  simp only [deflate, Option.ite_none_right_eq_some, Option.some.injEq, List.all_eq_true, List.contains_iff_mem] at hs
  obtain ⟨hall, rfl⟩ := hs
  exact ⟨hall, rfl, fun j hj => setCpus_other s i _ hj, fun c => mem_union, fun c => by simp only [setCpus_same, mem_diff]⟩

/-- What inflate and deflate have in common, and all the partition needs: CPUs move only between the free set and
balloon `i`. -/
theorem Inv.move {s s' : BState} {i : Nat} (h : Inv s) (ha : s'.allowed = s.allowed)
    (hoth : ∀ j, j ≠ i → s'.cpus j = s.cpus j)
    (hunion : ∀ c, c ∈ s'.free ∨ c ∈ s'.cpus i ↔ c ∈ s.free ∨ c ∈ s.cpus i)
    (hdisj : ∀ c, c ∈ s'.cpus i → c ∉ s'.free) : Inv s' := by
  -- a CPU of the two new cells was in one of the two old ones: it is allowed and no other balloon has it
  have old : ∀ c, c ∈ s'.free ∨ c ∈ s'.cpus i → c ∈ s.allowed ∧ ∀ j, j ≠ i → c ∉ s'.cpus j := fun c hc =>
    match (hunion c).mp hc with
    | .inl hf => ⟨h.free_allowed c hf, fun j hji hj => h.owned_not_free j c (hoth j hji ▸ hj) hf⟩
    | .inr hi => ⟨h.owned_allowed i c hi, fun j hji hj => h.disjoint j i c hji (hoth j hji ▸ hj) hi⟩
  refine ⟨fun j c hc => ?_, fun j c hc hf => ?_, fun j k c hjk hj hk => ?_, fun c hc => ha ▸ (old c (.inl hc)).1, fun c hc => ?_⟩
  · rw [ha]
    by_cases hji : j = i
    · subst hji; exact (old c (.inr hc)).1
    · exact h.owned_allowed j c (hoth j hji ▸ hc)
  · by_cases hji : j = i
    · subst hji; exact hdisj c hc hf
    · exact (old c (.inl hf)).2 j hji hc
  · by_cases hji : j = i
    · subst hji; exact (old c (.inr hj)).2 k (Ne.symm hjk) hk
    · by_cases hki : k = i
      · subst hki; exact (old c (.inr hk)).2 j hji hj
      · exact h.disjoint j k c hjk (hoth j hji ▸ hj) (hoth k hki ▸ hk)
  · rcases h.cover c (ha ▸ hc) with hf | ⟨j, hj⟩
    · exact ((hunion c).mpr (.inl hf)).imp_right fun hi => ⟨i, hi⟩
    · by_cases hji : j = i
      · subst hji; exact ((hunion c).mpr (.inr hj)).imp_right fun hi => ⟨j, hi⟩
      · exact .inr ⟨j, (hoth j hji).symm ▸ hj⟩

/-- Moving `X ⊆ A` out of a cell `A` into a cell `B`, seen from one CPU: the union stays, and cells that were apart
stay apart.  inflate is this move from the free set into the balloon, deflate the same move back. -/
theorem move_mem {A B X A' B' : Prop} (hX : X → A) (hA : A' ↔ A ∧ ¬X) (hB : B' ↔ B ∨ X) :
    (A' ∨ B' ↔ A ∨ B) ∧ ((B → ¬A) → B' → ¬A') := by
  rw [hA, hB]
  by_cases hx : X
  · simp [hx, hX hx]
  · simp [hx]

theorem inv_inflate (s s' : BState) (i : Nat) (add : List Nat) (h : Inv s) (hs : inflate s i add = some s') : Inv s' := by
  obtain ⟨hadd, ha, hoth, hfree, hcpus⟩ := inflate_some hs
  have m := fun c => move_mem (hadd c) (hfree c) (hcpus c)
  exact h.move ha hoth (fun c => (m c).1) fun c => (m c).2 (h.owned_not_free i c)

theorem inv_deflate (s s' : BState) (i : Nat) (rem : List Nat) (h : Inv s) (hs : deflate s i rem = some s') : Inv s' := by
  obtain ⟨hrem, ha, hoth, hfree, hcpus⟩ := deflate_some hs
  have m := fun c => move_mem (hrem c) (hcpus c) (hfree c)
  exact h.move ha hoth (fun c => Or.comm.trans ((m c).1.trans Or.comm)) fun c hc hf =>
    (m c).2 (fun hf hc => h.owned_not_free i c hc hf) hf hc

theorem deleteBalloon_eq_deflate (s : BState) (i : Nat) : deflate s i (s.cpus i) = some (deleteBalloon s i) := by
  have hall : (s.cpus i).all ((s.cpus i).contains ·) = true := by simp
  have hnil : (s.cpus i).filter (fun c => !(s.cpus i).contains c) = [] := by simp
  simp only [deflate, deleteBalloon, hall, hnil, if_true]

theorem inv_delete (s : BState) (i : Nat) (h : Inv s) : Inv (deleteBalloon s i) :=
  inv_deflate s _ i _ h (deleteBalloon_eq_deflate s i)

theorem getD_inv {σ : Type} {P : σ → Prop} {s : σ} (h : P s) {o : Option σ} (ho : ∀ s', o = some s' → P s') :
    P (o.getD s) := by
  cases o with
  | none => exact h
  | some s' => exact ho s' rfl

/-- a step of a history; the CPU sets are the allocator's (arbitrary) picks -/
inductive Op where
  | inflate (i : Nat) (add : List Nat)
  | deflate (i : Nat) (rem : List Nat)
  | delete (i : Nat)

def stepOp (s : BState) : Op → BState
  | .inflate i add => (inflate s i add).getD s     -- a pick outside the allocator's contract is refused
  | .deflate i rem => (deflate s i rem).getD s
  | .delete i => deleteBalloon s i

theorem inv_step (s : BState) (o : Op) (h : Inv s) : Inv (stepOp s o) := by
  cases o with
  | inflate i add => exact getD_inv h fun s' hs => inv_inflate s s' i add h hs
  | deflate i rem => exact getD_inv h fun s' hs => inv_deflate s s' i rem h hs
  | delete i => exact inv_delete s i h

/-- **Partition, always.** After every history of inflate/deflate/delete steps, with every possible
choice of CPUs, the balloons partition the allowed CPUs together with the free set. -/
theorem inv_run (allowed : List Nat) (ops : List Op) : Inv (ops.foldl stepOp (initB allowed)) :=
  List.foldlRecOn ops stepOp (inv_init allowed) fun s h o _ => inv_step s o h

theorem mem_sharedSpec {s : BState} {isolated scope : List Nat} {c : Nat} :
    c ∈ sharedSpec s isolated scope ↔ c ∈ s.free ∧ c ∈ scope ∧ c ∉ isolated := by
  simp [sharedSpec]

theorem shared_spec_sound (s : BState) (h : Inv s) (isolated scope : List Nat) (c : Nat)
    (hc : c ∈ sharedSpec s isolated scope) : c ∈ s.free ∧ c ∉ isolated ∧ ∀ i, c ∉ s.cpus i :=
  have hc := mem_sharedSpec.mp hc
  ⟨hc.1, hc.2.2, fun i hi => h.owned_not_free i c hi hc.1⟩

theorem shared_spec_complete (s : BState) (isolated scope : List Nat) (c : Nat)
    (hf : c ∈ s.free) (hs : c ∈ scope) (hi : c ∉ isolated) : c ∈ sharedSpec s isolated scope :=
  mem_sharedSpec.mpr ⟨hf, hs, hi⟩

/-- **Confinement.** What a container of balloon `i` may run on lies inside the allowed CPUs and
contains no CPU of any other balloon. -/
theorem pinned_confined (s : BState) (h : Inv s) (i : Nat) (isolated scope : List Nat) (c : Nat)
    (hc : c ∈ pinned s i isolated scope) : c ∈ s.allowed ∧ ∀ j, j ≠ i → c ∉ s.cpus j := by
  simp only [pinned, List.mem_append] at hc
  rcases hc with hc | hc
  · exact ⟨h.owned_allowed i c hc, fun j hj hcj => h.disjoint i j c (fun e => hj e.symm) hc hcj⟩
  · obtain ⟨hf, _, hn⟩ := shared_spec_sound s h isolated scope c hc
    exact ⟨h.free_allowed c hf, fun j _ => hn j⟩

-- the steps of a history are not all refused: a concrete one and the free set it ends with
example : (([Op.inflate 0 [1, 2], Op.inflate 1 [3], Op.deflate 0 [2]]).foldl stepOp (initB [0, 1, 2, 3])).free = [0, 2] := by decide

/-- what `validateConfig` demands of a balloon type's CPU limits -/
def DefWF (d : Def) : Prop := d.maxC > 0 → d.minC ≤ d.maxC

/-- `n` CPUs capped by MaxCpus (0 = no limit), then raised to MinCpus -/
def clamp (d : Def) (n : Nat) : Nat := max d.minC (if d.maxC = 0 then n else min n d.maxC)

theorem targetCount_eq (d : Def) (m : Nat) : targetCount d m = clamp d ((m + 999) / 1000) := by
  have raise (a x : Nat) : (if a > 0 ∧ x < a then a else x) = max a x := by
    split
    next h => exact (Nat.max_eq_left (Nat.le_of_lt h.2)).symm
    next h => exact (Nat.max_eq_right (Nat.le_of_not_lt fun hx => h ⟨Nat.zero_lt_of_lt hx, hx⟩)).symm
  have cap (b x : Nat) : (if b > 0 ∧ x > b then b else x) = if b = 0 then x else min x b := by
    split
    next h => rw [if_neg (Nat.ne_of_gt h.1), Nat.min_eq_right (Nat.le_of_lt h.2)]
    next h =>
      split
      · rfl
      next hb => exact (Nat.min_eq_left (Nat.le_of_not_lt fun hx => h ⟨Nat.pos_of_ne_zero hb, hx⟩)).symm
  unfold targetCount clamp
  simp only [raise, cap]

theorem clamp_mono (d : Def) {a b : Nat} (h : a ≤ b) : clamp d a ≤ clamp d b := by
  unfold clamp
  split
  · exact max_le_max_left _ h
  · exact max_le_max_left _ (min_le_min_right _ h)

theorem clamp_bounds (d : Def) (h : DefWF d) (n : Nat) : d.minC ≤ clamp d n ∧ (d.maxC > 0 → clamp d n ≤ d.maxC) := by
  refine ⟨Nat.le_max_left _ _, fun hm => ?_⟩
  unfold clamp
  rw [if_neg (Nat.ne_of_gt hm)]
  exact Nat.max_le.mpr ⟨h hm, Nat.min_le_right n _⟩

theorem le_clamp (d : Def) (n : Nat) (h : d.maxC > 0 → n ≤ d.maxC) : n ≤ clamp d n := by
  unfold clamp
  split
  · exact Nat.le_max_right _ n
  next hm => exact Nat.le_trans (Nat.le_min.mpr ⟨Nat.le_refl n, h (Nat.pos_of_ne_zero hm)⟩) (Nat.le_max_right _ _)

/-- from MinCpus upwards clamping only caps -/
theorem clamp_le (d : Def) {n : Nat} (h : d.minC ≤ n) : clamp d n ≤ n := by
  unfold clamp
  split
  · exact Nat.max_le.mpr ⟨h, Nat.le_refl n⟩
  · exact Nat.max_le.mpr ⟨h, Nat.min_le_left n _⟩

theorem minC_le_targetCount (d : Def) (m : Nat) : d.minC ≤ targetCount d m := targetCount_eq d m ▸ Nat.le_max_left _ _

theorem targetCount_bounds (d : Def) (h : DefWF d) (m : Nat) :
    d.minC ≤ targetCount d m ∧ (d.maxC > 0 → targetCount d m ≤ d.maxC) :=
  targetCount_eq d m ▸ clamp_bounds d h _

theorem targetCount_mono (d : Def) (a b : Nat) (hab : a ≤ b) : targetCount d a ≤ targetCount d b := by
  rw [targetCount_eq, targetCount_eq]
  exact clamp_mono d (Nat.div_le_div_right (Nat.add_le_add_right hab 999))

theorem ceil_mul (n : Nat) : (n * 1000 + 999) / 1000 = n := by
  rw [Nat.mul_comm, Nat.mul_add_div (by decide)]; rfl

theorem le_ceil (m : Nat) : m ≤ 1000 * ((m + 999) / 1000) := by omega

theorem targetCount_fits (d : Def) (m : Nat) (hcap : d.maxC > 0 → m ≤ d.maxC * 1000) : m ≤ 1000 * targetCount d m := by
  rw [targetCount_eq]
  refine Nat.le_trans (le_ceil m) (Nat.mul_le_mul_left 1000 (le_clamp d _ fun hm => ?_))
  exact ceil_mul d.maxC ▸ Nat.div_le_div_right (Nat.add_le_add_right (hcap hm) 999)

/-- the full CPUs a balloon was given ask for no more CPUs than it has -/
theorem targetCount_idem_le (d : Def) (m : Nat) : targetCount d (targetCount d m * 1000) ≤ targetCount d m := by
  rw [targetCount_eq d (_ * 1000), ceil_mul]
  exact clamp_le d (minC_le_targetCount d m)

/-- a balloon that already has the room keeps its size when re-targeted (`AllocateResources`
skips the resize when `AvailMilliCpus() >= max(1, req)`): `b` lies between two demands with target `n` -/
theorem targetCount_stable (d : Def) (a b n : Nat) (hab : a ≤ b) (hn : n = targetCount d a) (hroom : b ≤ n * 1000) :
    targetCount d b = n := by
  subst hn
  exact Nat.le_antisymm (Nat.le_trans (targetCount_mono d _ _ hroom) (targetCount_idem_le d a))
    (targetCount_mono d a b hab)

/-- `newBalloon`'s `MinCpus*1000` lies between the demand 0 of `resizeBalloon(bln, 0)` and the room its target gives -/
theorem targetCount_min (d : Def) : targetCount d (d.minC * 1000) = targetCount d 0 :=
  targetCount_stable d 0 _ _ (Nat.zero_le _) rfl (Nat.mul_le_mul_right 1000 (minC_le_targetCount d 0))

theorem sizeSpec_eq (d : Def) (ms : List (String × Nat)) :
    sizeSpec d ms = targetCount d (if ms.isEmpty then 0 else max 1 (requested ms)) := (apply_ite _ _ _ _).symm

theorem requested_eq_sum (ms : List (String × Nat)) : requested ms = (ms.map (·.2)).sum := List.sum_eq_foldl_nat.symm

theorem requested_append (ms : List (String × Nat)) (c : String) (m : Nat) : requested (ms ++ [(c, m)]) = requested ms + m := by
  simp [requested_eq_sum]

theorem sizeSpec_append (d : Def) (ms : List (String × Nat)) (c : String) (m : Nat) :
    sizeSpec d (ms ++ [(c, m)]) = targetCount d (max 1 (requested ms + m)) := by
  simp [sizeSpec, requested_append]

theorem requested_filter_le (ms : List (String × Nat)) (p : String × Nat → Bool) : requested (ms.filter p) ≤ requested ms := by
  simp only [requested_eq_sum]
  induction ms with
  | nil => exact Nat.le_refl _
  | cons x xs ih =>
    rw [List.filter_cons]
    split
    · exact Nat.add_le_add_left ih _
    · exact Nat.le_trans ih (Nat.le_add_left _ _)

theorem resize_some {r r' : RState} {i milli : Nat} {pick : List Nat} (hr : resize r i milli pick = some r') :
    ∃ c, r' = { r with core := c } ∧ (Inv r.core → Inv c) ∧
      (c.cpus i).length = targetCount (r.defs (r.defOf i)) milli ∧ ∀ j, j ≠ i → c.cpus j = r.core.cpus j := by
  simp only [resize, ite_eq_iff', Option.some.injEq] at hr
  rcases hr with ⟨hn, rfl⟩ | ⟨_, ⟨_, hr⟩ | ⟨_, hr⟩⟩
  · exact ⟨r.core, rfl, id, hn.symm, fun _ _ => rfl⟩
  -- inflate or deflate; a refused pick and a wrong size give `none`
  all_goals split at hr <;> simp only [Option.ite_none_right_eq_some, Option.some.injEq, reduceCtorEq] at hr
  · rename_i c hc; exact ⟨c, hr.2.symm, fun h => inv_inflate _ _ _ _ h hc, hr.1, (inflate_some hc).2.2.1⟩
  · rename_i c hc; exact ⟨c, hr.2.symm, fun h => inv_deflate _ _ _ _ h hc, hr.1, (deflate_some hc).2.2.1⟩

/-- the request-level invariant: the property's size, limit and membership clauses -/
structure RInv (r : RState) : Prop where
  core : Inv r.core
  wf : ∀ k, DefWF (r.defs k)
  /-- every balloon has exactly the size its type and its members' requests demand -/
  size : ∀ i ∈ r.live, (r.core.cpus i).length = sizeSpec (r.defs (r.defOf i)) (r.members i)
  /-- the members' requests fit under the type's MaxCpus -/
  cap : ∀ i ∈ r.live, (r.defs (r.defOf i)).maxC > 0 → requested (r.members i) ≤ (r.defs (r.defOf i)).maxC * 1000
  /-- a container is a member of at most one balloon, once -/
  uniq : ∀ i ∈ r.live, ∀ j ∈ r.live, ∀ c, c ∈ (r.members i).map (·.1) → c ∈ (r.members j).map (·.1) → i = j
  once : ∀ i ∈ r.live, ((r.members i).map (·.1)).Nodup

theorem mem_allMembers (r : RState) (c : String) : c ∈ allMembers r ↔ ∃ i ∈ r.live, c ∈ (r.members i).map (·.1) :=
  List.mem_flatMap

/-- **limits** - in every state satisfying the invariant each balloon respects MinCpus/MaxCpus -/
theorem limits_hold (r : RState) (h : RInv r) (i : Nat) (hi : i ∈ r.live) :
    (r.defs (r.defOf i)).minC ≤ (r.core.cpus i).length ∧
    ((r.defs (r.defOf i)).maxC > 0 → (r.core.cpus i).length ≤ (r.defs (r.defOf i)).maxC) := by
  rw [h.size i hi, sizeSpec_eq]
  exact targetCount_bounds _ (h.wf _) _

/-- **a non-empty balloon has at least one CPU and at least as many CPUs as its containers request** -/
theorem nonempty_fits (r : RState) (h : RInv r) (i : Nat) (hi : i ∈ r.live) (hne : r.members i ≠ []) :
    1 ≤ (r.core.cpus i).length ∧ requested (r.members i) ≤ 1000 * (r.core.cpus i).length := by
  rw [h.size i hi, sizeSpec_eq, if_neg (mt List.isEmpty_iff.mp hne)]
  have ⟨h1, hreq⟩ := Nat.max_le.mp <| targetCount_fits (r.defs (r.defOf i)) (max 1 (requested (r.members i))) fun hm =>
    Nat.max_le.mpr ⟨Nat.mul_pos hm (by decide), h.cap i hi hm⟩
  exact ⟨Nat.pos_of_mul_pos_left h1, hreq⟩

theorem updM_same (f : Nat → List (String × Nat)) (i : Nat) (v : List (String × Nat)) : updM f i v i = v := if_pos rfl
theorem updM_other (f : Nat → List (String × Nat)) (i : Nat) (v : List (String × Nat)) {j : Nat} (h : j ≠ i) : updM f i v j = f j := if_neg h

/-- A request changes one balloon: with the others carried over (`hrest`), `RInv` needs checking for balloon `i` only. -/
theorem RInv.frame {r r' : RState} (h : RInv r) (i : Nat) (hcore : Inv r'.core) (hdefs : r'.defs = r.defs)
    (hrest : ∀ j ∈ r'.live, j ≠ i →
      j ∈ r.live ∧ r'.defOf j = r.defOf j ∧ r'.members j = r.members j ∧ r'.core.cpus j = r.core.cpus j)
    (hi : i ∈ r'.live →
      (r'.core.cpus i).length = sizeSpec (r'.defs (r'.defOf i)) (r'.members i) ∧
      ((r'.defs (r'.defOf i)).maxC > 0 → requested (r'.members i) ≤ (r'.defs (r'.defOf i)).maxC * 1000) ∧
      ((r'.members i).map (·.1)).Nodup ∧
      ∀ j ∈ r.live, j ≠ i → ∀ c ∈ (r'.members i).map (·.1), c ∉ (r.members j).map (·.1)) : RInv r' := by
  refine ⟨hcore, fun k => hdefs ▸ h.wf k, fun j hj => ?_, fun j hj => ?_, fun j hj k hk c hcj hck => ?_, fun j hj => ?_⟩
  · by_cases hji : j = i
    · subst hji; exact (hi hj).1
    · obtain ⟨hjl, e1, e2, e3⟩ := hrest j hj hji
      rw [hdefs, e1, e2, e3]; exact h.size j hjl
  · by_cases hji : j = i
    · subst hji; exact (hi hj).2.1
    · obtain ⟨hjl, e1, e2, _⟩ := hrest j hj hji
      rw [hdefs, e1, e2]; exact h.cap j hjl
  · by_cases hji : j = i <;> by_cases hki : k = i
    · rw [hji, hki]
    · obtain ⟨hkl, _, e2, _⟩ := hrest k hk hki
      subst hji; exact absurd (e2 ▸ hck) ((hi hj).2.2.2 k hkl hki c hcj)
    · obtain ⟨hjl, _, e2, _⟩ := hrest j hj hji
      subst hki; exact absurd (e2 ▸ hcj) ((hi hk).2.2.2 j hjl hji c hck)
    · obtain ⟨hjl, _, ej, _⟩ := hrest j hj hji
      obtain ⟨hkl, _, ek, _⟩ := hrest k hk hki
      exact h.uniq j hjl k hkl c (ej ▸ hcj) (ek ▸ hck)
  · by_cases hji : j = i
    · subst hji; exact (hi hj).2.2.1
    · obtain ⟨hjl, _, e2, _⟩ := hrest j hj hji
      rw [e2]; exact h.once j hjl

theorem assign_some {r r' : RState} {i : Nat} {ctr : String} {milli : Nat} {pick : List Nat}
    (ha : assign r i ctr milli pick = some r') :
    i ∈ r.live ∧ (∀ j ∈ r.live, ctr ∉ (r.members j).map (·.1)) ∧
    requested (r.members i) + milli ≤ maxAvail (r.defs (r.defOf i)) (r.core.cpus i).length r.core.free.length ∧
    ∃ c, r' = { r with core := c, members := updM r.members i (r.members i ++ [(ctr, milli)]) } ∧
      (Inv r.core → Inv c) ∧ (∀ j, j ≠ i → c.cpus j = r.core.cpus j) ∧
      ((r.core.cpus i).length = sizeSpec (r.defs (r.defOf i)) (r.members i) →
        (c.cpus i).length = sizeSpec (r.defs (r.defOf i)) (r.members i ++ [(ctr, milli)])) := by
  simp only [assign, Option.ite_none_left_eq_some, Option.map_eq_some_iff, Bool.not_eq_true', Bool.not_eq_false,
    List.contains_iff_mem, Nat.not_lt] at ha
  obtain ⟨hi, hnew, hguard, r1, hr1, rfl⟩ := ha
  refine ⟨hi, fun j hj hm => hnew ((mem_allMembers r ctr).mpr ⟨j, hj, hm⟩), hguard, ?_⟩
  rw [sizeSpec_append]
  split at hr1
  next =>
    obtain ⟨c, rfl, hc, hlen, hoth⟩ := resize_some hr1
    exact ⟨c, rfl, hc, hoth, fun _ => hlen⟩
  next hroom =>
    -- `AllocateResources` leaves a balloon that has the room alone: its size is already the target of the larger demand
    cases hr1
    have hle : (if (r.members i).isEmpty then 0 else max 1 (requested (r.members i))) ≤
        max 1 (requested (r.members i) + milli) := by
      split
      · exact Nat.zero_le _
      · exact max_le_max_left 1 (Nat.le_add_right _ milli)
    exact ⟨r.core, rfl, id, fun _ _ => rfl, fun hsize =>
      (targetCount_stable _ _ _ _ hle (sizeSpec_eq _ _ ▸ hsize) (Nat.not_lt.mp hroom)).symm⟩

theorem dismiss_some {r r' : RState} {i : Nat} {ctr : String} {pick : List Nat} (hd : dismiss r i ctr pick = some r') :
    i ∈ r.live ∧ ctr ∈ (r.members i).map (·.1) ∧
    ∃ c, r' = { r with core := c, members := updM r.members i ((r.members i).filter (fun m => m.1 != ctr)) } ∧
      (Inv r.core → Inv c) ∧ (∀ j, j ≠ i → c.cpus j = r.core.cpus j) ∧
      (c.cpus i).length = sizeSpec (r.defs (r.defOf i)) ((r.members i).filter (fun m => m.1 != ctr)) := by
  simp only [dismiss, Option.ite_none_left_eq_some, Bool.not_eq_true', Bool.not_eq_false, List.contains_iff_mem] at hd
  obtain ⟨hi, hmem, hd⟩ := hd
  rw [← apply_ite (resize _ i · pick)] at hd
  obtain ⟨c, rfl, hc, hlen, hoth⟩ := resize_some hd
  exact ⟨hi, hmem, c, rfl, hc, hoth, sizeSpec_eq _ _ ▸ hlen⟩

theorem create_some {r r' : RState} {i k : Nat} {pick : List Nat} (hc : create r i k pick = some r') :
    i ∉ r.live ∧ r.members i = [] ∧ ((r.defs k).maxB > 0 → countOf r k < (r.defs k).maxB) ∧
    ∃ c, r' = { r with core := c, defOf := fun j => if j = i then k else r.defOf j, live := i :: r.live } ∧
      (Inv r.core → Inv c) ∧ (∀ j, j ≠ i → c.cpus j = r.core.cpus j) ∧
      (c.cpus i).length = sizeSpec (r.defs k) [] := by
  simp only [create, Option.ite_none_left_eq_some, Bool.not_eq_true, List.contains_iff_mem, Bool.or_eq_false_iff,
    Bool.not_eq_false', List.isEmpty_iff, not_and, Nat.not_le] at hc
  obtain ⟨hi, ⟨_, hm⟩, hguard, hc⟩ := hc
  obtain ⟨c, rfl, hcore, hlen, hoth⟩ := resize_some hc
  simp only [if_pos, targetCount_min] at hlen
  exact ⟨hi, hm, hguard, c, rfl, hcore, hoth, hlen⟩

theorem delete_some {r r' : RState} {i : Nat} (hd : delete r i = some r') :
    i ∈ r.live ∧ r.members i = [] ∧ (r.defs (r.defOf i)).minB < countOf r (r.defOf i) ∧
    r' = { r with core := deleteBalloon r.core i, live := r.live.filter (· != i) } := by
  simp only [delete, Option.ite_none_left_eq_some, Option.some.injEq, Bool.not_eq_true', Bool.not_eq_false,
    List.contains_iff_mem, List.isEmpty_iff, Nat.not_le] at hd
  exact ⟨hd.1, hd.2.1, hd.2.2.1, hd.2.2.2.symm⟩

/-- **AllocateResources preserves the invariant**, for the balloon the fill chain chose and every
allocator pick -/
theorem assign_inv (r r' : RState) (i : Nat) (ctr : String) (milli : Nat) (pick : List Nat)
    (h : RInv r) (ha : assign r i ctr milli pick = some r') : RInv r' := by
  obtain ⟨hi, hnew, hguard, c, rfl, hc, hoth, hlen⟩ := assign_some ha
  refine h.frame i (hc h.core) rfl (fun j hj hji => ⟨hj, rfl, updM_other _ _ _ hji, hoth j hji⟩) fun _ => ?_
  simp only [updM_same, requested_append, List.map_append, List.map_cons, List.map_nil]
  refine ⟨hlen (h.size i hi), fun hmax => ?_, ?_, fun j hj hji c' hc' => ?_⟩
  · -- the fill chain's room test
    simp only [maxAvail, if_neg (Nat.ne_of_gt hmax)] at hguard
    exact hguard
  · exact nodup_concat (h.once i hi) (hnew i hi)
  · rcases List.mem_append.mp hc' with hc' | hc'
    · exact fun hcj => hji (h.uniq j hj i hi c' hcj hc')
    · exact List.mem_singleton.mp hc' ▸ hnew j hj

/-- **ReleaseResources preserves the invariant** (the emptied balloon is deflated to its minimum, a
still populated one is re-sized to its remaining members' requests) -/
theorem dismiss_inv (r r' : RState) (i : Nat) (ctr : String) (pick : List Nat)
    (h : RInv r) (hd : dismiss r i ctr pick = some r') : RInv r' := by
  obtain ⟨hi, _, c, rfl, hc, hoth, hlen⟩ := dismiss_some hd
  refine h.frame i (hc h.core) rfl (fun j hj hji => ⟨hj, rfl, updM_other _ _ _ hji, hoth j hji⟩) fun _ => ?_
  simp only [updM_same]
  exact ⟨hlen, fun hmax => Nat.le_trans (requested_filter_le _ _) (h.cap i hi hmax),
    (List.filter_sublist.map _).nodup (h.once i hi),
    fun j hj hji c' hc' hcj => hji (h.uniq j hj i hi c' hcj ((List.filter_sublist.map _).subset hc'))⟩

/-- **newBalloon preserves the invariant**: the new instance has exactly its type's minimum size -/
theorem create_inv (r r' : RState) (i k : Nat) (pick : List Nat) (h : RInv r) (hc : create r i k pick = some r') : RInv r' := by
  obtain ⟨hni, hme, _, c, rfl, hcore, hoth, hlen⟩ := create_some hc
  refine h.frame i (hcore h.core) rfl (fun j hj hji => ?_) fun _ => ?_
  · exact ⟨(List.mem_cons.mp hj).resolve_left hji, if_neg hji, rfl, hoth j hji⟩
  · simp only [if_pos, hme]
    exact ⟨hlen, fun _ => Nat.zero_le _, List.nodup_nil, fun _ _ _ _ hc' => nomatch hc'⟩

/-- **freeBalloon/deleteBalloon preserves the invariant** -/
theorem delete_inv (r r' : RState) (i : Nat) (h : RInv r) (hd : delete r i = some r') : RInv r' := by
  obtain ⟨_, _, _, rfl⟩ := delete_some hd
  refine h.frame i (inv_delete r.core i h.core) rfl (fun j hj hji => ?_) fun hi => ?_
  · exact ⟨(List.mem_filter.mp hj).1, rfl, rfl, setCpus_other _ _ _ hji⟩
  · simp at hi

/-- the requests the balloons policy serves, with the fill chain's choice and the allocator's picks
as arbitrary oracle arguments; a refused step leaves the state as it was -/
inductive ROp where
  | assign (i : Nat) (ctr : String) (milli : Nat) (pick : List Nat)
  | dismiss (i : Nat) (ctr : String) (pick : List Nat)
  | create (i k : Nat) (pick : List Nat)
  | delete (i : Nat)

def stepR (r : RState) : ROp → RState
  | .assign i c m p => (assign r i c m p).getD r
  | .dismiss i c p => (dismiss r i c p).getD r
  | .create i k p => (create r i k p).getD r
  | .delete i => (delete r i).getD r

theorem rinv_step (r : RState) (o : ROp) (h : RInv r) : RInv (stepR r o) := by
  cases o with
  | assign i c m p => exact getD_inv h fun r' hs => assign_inv r r' i c m p h hs
  | dismiss i c p => exact getD_inv h fun r' hs => dismiss_inv r r' i c p h hs
  | create i k p => exact getD_inv h fun r' hs => create_inv r r' i k p h hs
  | delete i => exact getD_inv h fun r' hs => delete_inv r r' i h hs

/-- the configured policy before any balloon exists -/
def initR (allowed : List Nat) (defs : Nat → Def) : RState := ⟨initB allowed, defs, fun _ => 0, fun _ => [], []⟩

theorem rinv_init (allowed : List Nat) (defs : Nat → Def) (hwf : ∀ k, DefWF (defs k)) : RInv (initR allowed defs) :=
  ⟨inv_init allowed, hwf, fun _ h => (by cases h), fun _ h => (by cases h), fun _ h => (by cases h), fun _ h => (by cases h)⟩

/-- **every history**: for all available CPU sets, all well-formed balloon types, all sequences of
balloon creations/deletions and container assignments/releases, all fill-chain choices and all
allocator picks: the balloons partition the available CPUs, every balloon has exactly the size its
type and its members' requests demand (hence MinCpus ≤ size ≤ MaxCpus, a non-empty balloon has at least one
CPU and at least as many CPUs as its containers request), and no container is a member twice -/
theorem rinv_run (allowed : List Nat) (defs : Nat → Def) (hwf : ∀ k, DefWF (defs k)) (ops : List ROp) :
    RInv (ops.foldl stepR (initR allowed defs)) :=
  List.foldlRecOn ops stepR (rinv_init allowed defs hwf) fun r h o _ => rinv_step r o h

/-- non-vacuity: a type with 1..4 CPUs; create an instance (1 CPU), assign 1500m (grows to 2), assign
300m (fits, no resize), release the first (shrinks to 1) -/
example :
    let d : Def := ⟨1, 4, 0, 0⟩
    let r := [ROp.create 0 0 [0], .assign 0 "a" 1500 [1], .assign 0 "b" 300 [], .dismiss 0 "a" [1]].foldl stepR (initR [0, 1, 2, 3] (fun _ => d))
    r.core.cpus 0 = [0] ∧ r.core.free = [2, 3, 1] ∧ r.members 0 = [("b", 300)] ∧ r.live = [0] := by
  decide

/-- every balloon type has at most MaxBalloons and at least MinBalloons instances; instances are distinct -/
structure InstInv (r : RState) : Prop where
  nodup : r.live.Nodup
  max : ∀ k, (r.defs k).maxB > 0 → countOf r k ≤ (r.defs k).maxB
  min : ∀ k, (r.defs k).minB ≤ countOf r k

theorem countOf_unused : True := trivial

theorem countOf_cons {r r' : RState} {i : Nat} (hl : r'.live.Perm (i :: r.live)) (hd : ∀ j ∈ r.live, r'.defOf j = r.defOf j)
    (k : Nat) : countOf r' k = countOf r k + if r'.defOf i = k then 1 else 0 := by
  have hold : (r.live.filter fun j => r'.defOf j == k) = r.live.filter fun j => r.defOf j == k :=
    List.filter_congr fun j hj => by rw [hd j hj]
  simp only [countOf, (hl.filter _).length_eq, List.filter_cons, hold, beq_iff_eq]
  split <;> rfl

/-- the instance limits are kept by `newBalloon` whether or not the sizes are in order -/
theorem create_instInv {r r' : RState} {i k : Nat} {pick : List Nat} (h : InstInv r) (hc : create r i k pick = some r') :
    InstInv r' := by
  obtain ⟨hni, _, hguard, c, rfl, _⟩ := create_some hc
  refine ⟨List.nodup_cons.mpr ⟨hni, h.nodup⟩, fun k' hk' => ?_, fun k' => ?_⟩
  -- the old instances keep their types, so the new one counts for its type `k` only
  all_goals
    rw [countOf_cons (r := r) (.refl _) fun j hj => if_neg fun e : j = i => hni (e ▸ hj)]
    simp only [if_pos]
  · have := h.max k' hk'
    split
    · subst k'; exact hguard hk'
    · exact this
  · exact Nat.le_trans (h.min k') (Nat.le_add_right _ _)

/-- **newBalloon respects MaxBalloons** (and keeps MinBalloons) -/
theorem create_inst (r r' : RState) (i k : Nat) (pick : List Nat) (hr : RInv r) (h : InstInv r) (hc : create r i k pick = some r') : InstInv r' :=
  create_instInv h hc

/-- **freeBalloon/deleteBalloon respects MinBalloons** (and keeps MaxBalloons) -/
theorem delete_inst (r r' : RState) (i : Nat) (h : InstInv r) (hd : delete r i = some r') : InstInv r' := by
  obtain ⟨hi, _, hguard, rfl⟩ := delete_some hd
  -- the instances are distinct, so removing `i` takes exactly one from the count of its type
  have hcount := countOf_cons (r := { r with core := deleteBalloon r.core i, live := r.live.filter (· != i) }) (r' := r)
    (h.nodup.erase_eq_filter i ▸ List.perm_cons_erase hi) fun _ _ => rfl
  refine ⟨h.nodup.filter _, fun k hk => ?_, fun k => ?_⟩
  · exact Nat.le_trans (hcount k ▸ Nat.le_add_right _ _) (h.max k hk)
  · have := h.min k
    rw [hcount k] at this
    split at this
    · subst k; rw [hcount, if_pos rfl] at hguard; exact Nat.le_of_lt_succ hguard
    · exact this

theorem inst_step (r : RState) (o : ROp) (h : InstInv r) : InstInv (stepR r o) := by
  cases o with
  | assign i c m p =>
    refine getD_inv h fun r' hs => ?_
    obtain ⟨_, _, _, _, rfl, _⟩ := assign_some hs
    -- `live`, `defOf` and `defs` are those of `r`, and the limits mention nothing else
    exact ⟨h.nodup, h.max, h.min⟩
  | dismiss i c p =>
    refine getD_inv h fun r' hs => ?_
    obtain ⟨_, _, _, rfl, _⟩ := dismiss_some hs
    exact ⟨h.nodup, h.max, h.min⟩
  | create i k p => exact getD_inv h fun r' hs => create_instInv h hs
  | delete i => exact getD_inv h fun r' hs => delete_inst r r' i h hs

/-- **instance limits over every history**: from any state that satisfies them (the state right after the configured
MinBalloons instances were created), all requests keep every type within MinBalloons..MaxBalloons -/
theorem inst_run (r0 : RState) (hr : RInv r0) (h : InstInv r0) (ops : List ROp) :
    InstInv (ops.foldl stepR r0) ∧ RInv (ops.foldl stepR r0) :=
  ⟨List.foldlRecOn ops stepR h fun r h o _ => inst_step r o h, List.foldlRecOn ops stepR hr fun r h o _ => rinv_step r o h⟩

end Nri.Balloons

/-! ### the source shapes the request-level model was written against (regenerated facts must equal them) -/
namespace Nri.Balloons.Expect
def resizeCount : List String := ["oldCpuCount := bln.Cpus.Size()", "newCpuCount := (newMilliCpus + 999) / 1000", "if bln.Def.MaxCpus > NoLimit && newCpuCount > bln.Def.MaxCpus", "> newCpuCount = bln.Def.MaxCpus", "if bln.Def.MinCpus > 0 && newCpuCount < bln.Def.MinCpus", "> newCpuCount = bln.Def.MinCpus", "if oldCpuCount == newCpuCount", "cpuCountDelta := newCpuCount - oldCpuCount", "if cpuCountDelta > 0", "> newCpus, err := p.cpuAllocator.AllocateCpus(&addFromCpus, newCpuCount-oldCpuCount, bln.Def.AllocatorPriority.Value().Option())", "else"]
def allocate : List String := ["if c.PreserveCpuResources()", "> return nil", "if p.bpoptions.Preserve != nil", "> rule, err := p.bpoptions.Preserve.MatchContainer(c)", "> if err != nil", "> else", "> > if rule != \"\"", "> > > return nil", "bln, err := p.allocateBalloon(c)", "if err != nil", "> return balloonsError(…)", "if bln == nil", "> return balloonsError(…)", "reqMilliCpus := p.containerRequestedMilliCpus(c.GetID()) + p.requestedMilliCpus(bln)", "if bln.AvailMilliCpus() < max(1, reqMilliCpus)", "> if err := p.resizeBalloon(bln, max(1, reqMilliCpus)); err != nil", "> > if bln.ContainerCount() == 0", "> > > p.freeBalloon(bln)", "> > return balloonsError(…)", "p.assignContainer(c, bln)", "return nil"]
def release : List String := ["if bln := p.balloonByContainer(c); bln != nil", "> p.dismissContainer(c, bln)", "> if bln.ContainerCount() == 0", "> > if err := p.resizeBalloon(bln, 0); err != nil", "> > p.freeBalloon(bln)", "> else", "> > if err := p.resizeBalloon(bln, max(1, p.requestedMilliCpus(bln))); err != nil", "> > > return balloonsError(…)", "else", "return nil"]
def maxAvail : List String := ["if bln.Def.MaxCpus == NoLimit", "> return (bln.Cpus.Size() + freeCpus.Size()) * 1000", "return bln.Def.MaxCpus * 1000"]
def avail : List String := ["return bln.Cpus.Size() * 1000"]
def maxFree : List String := ["return bln.MaxAvailMilliCpus(p.freeCpus) - p.requestedMilliCpus(bln)"]
def free : List String := ["return bln.AvailMilliCpus() - p.requestedMilliCpus(bln)"]
def requestedSum : List String := ["cpuRequested := 0", "range bln.ContainerIDs()", "> cpuRequested += p.containerRequestedMilliCpus(cID)", "return cpuRequested"]
def freeBalloon : List String := ["bln.PodIDs = make(map[string][]string)", "if len(blnsSameDef) > bln.Def.MinBalloons", "> p.deleteBalloon(bln)"]
def assign : List String := ["bln.PodIDs[podID] = append(bln.PodIDs[podID], c.GetID())", "p.updatePinning(bln)"]
def dismissC : List String := ["if err := p.memAllocator.Release(c.GetID()); err != nil", "bln.PodIDs[podID] = removeString(bln.PodIDs[podID], c.GetID())", "if len(bln.PodIDs[podID]) == 0", "> delete(bln.PodIDs, podID)"]
def newBalloon : List String := ["if blnDef.MaxBalloons > NoLimit && blnDef.MaxBalloons <= len(blnsOfDef)", "> return nil, balloonsError(…)", "if err := p.resizeBalloon(bln, blnDef.MinCpus*1000); err != nil"]
def fillTests : List String := ["reqMilliCpus := p.containerRequestedMilliCpus(c.GetID())", "case FillNewBalloon, FillNewBalloonMust", "if len(bln.PodIDs) == 0 && p.maxFreeMilliCpus(bln) >= reqMilliCpus", "if newBln.MaxAvailMilliCpus(p.freeCpus) < reqMilliCpus", "case FillSameGroup", "return balloonsByFunc(p.balloons, func(bln *Balloon) bool { return bln.Groups[group] > 0 && bln.Def == blnDef && p.maxFreeMilliCpus(bln) >= reqMilliCpus }), nil", "case FillSameNamespace", "return balloonsByFunc(p.balloonsByNamespace(c.GetNamespace()), func(bln *Balloon) bool { return bln.Def == blnDef && p.maxFreeMilliCpus(bln) >= reqMilliCpus }), nil", "case FillSamePod", "return balloonsByFunc(p.balloonsByPod(pod), func(bln *Balloon) bool { return bln.Def == blnDef && p.maxFreeMilliCpus(bln) >= reqMilliCpus }), nil", "case FillBalanced", "return balloonsByFunc(balloons, func(bln *Balloon) bool { return p.freeMilliCpus(bln) >= reqMilliCpus }), nil", "case FillBalancedInflate", "return balloonsByFunc(balloons, func(bln *Balloon) bool { return p.maxFreeMilliCpus(bln) >= reqMilliCpus }), nil"]
end Nri.Balloons.Expect

namespace Nri.Balloons

/-- the regenerated statement skeletons of the sizing code are the ones the request-level model follows: the
new CPU count `(milli+999)/1000` capped by MaxCpus then raised to MinCpus; AllocateResources resizes to
`max(1, request + requested)` only when `AvailMilliCpus` is smaller, and rolls an empty balloon back on failure;
ReleaseResources deflates an emptied balloon to 0 and frees it, else re-sizes to `max(1, requested)`;
`MaxAvailMilliCpus`, the room tests of every fill method; MaxBalloons / MinBalloons tests -/
theorem gen_balloon_req_facts_ok :
    Nri.Gen.BalloonReq.resizeCount = Expect.resizeCount ∧
    Nri.Gen.BalloonReq.allocate = Expect.allocate ∧
    Nri.Gen.BalloonReq.release = Expect.release ∧
    Nri.Gen.BalloonReq.maxAvail = Expect.maxAvail ∧
    Nri.Gen.BalloonReq.avail = Expect.avail ∧
    Nri.Gen.BalloonReq.maxFree = Expect.maxFree ∧
    Nri.Gen.BalloonReq.free = Expect.free ∧
    Nri.Gen.BalloonReq.requestedSum = Expect.requestedSum ∧
    Nri.Gen.BalloonReq.freeBalloon = Expect.freeBalloon ∧
    Nri.Gen.BalloonReq.assign = Expect.assign ∧
    Nri.Gen.BalloonReq.dismissC = Expect.dismissC ∧
    Nri.Gen.BalloonReq.newBalloon = Expect.newBalloon ∧
    Nri.Gen.BalloonReq.fillTests = Expect.fillTests := by
  and_intros <;> rfl

end Nri.Balloons
