import Nri.Model.K8sRes
import Nri.Gen.K8sConsts
import Nri.Proofs.K8sCpu
import Nri.Proofs.OomTable
/-!
C20 — resource requirements reconstructed from cgroup parameters are faithful.
The CPU theorems are read off the closed forms of the conversions in `Proofs/K8sCpu`, the OOM-table
ones off the bucket characterisation in `Proofs/OomTable`; the table construction (`buildFrom_ok`) is here.
-/
namespace Nri.K8s

/-- Obligation over the regenerated constants: the code's constants are the ones the model's
conversions were written with (`modelConsts` lists them; the definitions spell the literals). -/
theorem gen_consts_ok : Nri.Gen.K8s.consts = modelConsts := rfl

/-- Round trip within 1 mCPU on the whole range above the floor … -/
theorem shares_roundtrip_1 (m : Nat) (h : m ≤ 256000) (hfloor : milliCPUToShares m ≠ 2) :
    sharesToMilliCPU (milliCPUToShares m) ≤ m + 1 ∧ m ≤ sharesToMilliCPU (milliCPUToShares m) + 1 := by
  have h3 : 3 ≤ m := Nat.lt_of_not_le (mt (milliCPUToShares_eq_two_iff m).2 hfloor)
  rw [shares_roundtrip_eq m h3 h]
  split <;> omega

/-- … and within 2 mCPU at the minimum-shares floor. -/
theorem shares_roundtrip_floor (m : Nat) (h : m ≤ 256000) (hfloor : milliCPUToShares m = 2) :
    sharesToMilliCPU (milliCPUToShares m) = 0 ∧ m ≤ 2 :=
  ⟨by rw [hfloor, sharesToMilliCPU_two], (milliCPUToShares_eq_two_iff m).1 hfloor⟩

/-- Exact for every multiple of 125 mCPU (hence all whole-CPU requests) up to 256 CPUs:
`125·k·1024` is a multiple of 1000. -/
theorem shares_exact_125 (k : Nat) (h : 125 * k ≤ 256000) :
    sharesToMilliCPU (milliCPUToShares (125 * k)) = 125 * k := by
  cases k with
  | zero => rfl
  | succ k => rw [shares_roundtrip_eq _ (by omega) h, if_pos (by omega)]

theorem shares_exact_whole_cpu (n : Nat) (h : n ≤ 256) :
    sharesToMilliCPU (milliCPUToShares (1000 * n)) = 1000 * n := by
  rw [show 1000 * n = 125 * (8 * n) from Nat.mul_assoc 125 8 n]
  exact shares_exact_125 (8 * n) (Nat.mul_le_mul_left 125 (Nat.mul_le_mul_left 8 h))

/-- CPU limits are exact from 10 mCPU upwards (no upper bound needed). -/
theorem quota_exact_from_10 (m : Nat) (h : 10 ≤ m) :
    quotaToMilliCPU (milliCPUToQuota m).1 (milliCPUToQuota m).2 = m := by
  rw [quota_roundtrip_eq, if_neg (Nat.ne_of_gt (Nat.lt_of_lt_of_le (by decide) h)), Nat.max_eq_right h]

/-- Below 10 mCPU the quota floor makes the limit read back as 10 (the excluded range,
stated so the boundary is visible). -/
theorem quota_below_10 (m : Nat) (h0 : 0 < m) (h : m < 10) :
    quotaToMilliCPU (milliCPUToQuota m).1 (milliCPUToQuota m).2 = 10 := by
  rw [quota_roundtrip_eq, if_neg (Nat.ne_of_gt h0), Nat.max_eq_left (Nat.le_of_lt h)]

/-- Reconstruction from shares is monotone on the cgroup range (shares ≥ 2). -/
theorem shares_to_milli_monotone (s t : Nat) (hs : 2 ≤ s) (h : s ≤ t) :
    sharesToMilliCPU s ≤ sharesToMilliCPU t := by
  by_cases h2 : s = 2
  · rw [h2, sharesToMilliCPU_two]; exact Nat.zero_le _
  · rw [sharesToMilliCPU_of_ne_two h2,
      sharesToMilliCPU_of_ne_two (Nat.ne_of_gt (Nat.lt_of_lt_of_le (Nat.lt_of_le_of_ne hs (Ne.symm h2)) h))]
    exact Nat.div_le_div_right (Nat.add_le_add_right (Nat.mul_le_mul_right 1000 h) 512)

theorem shares_roundtrip_monotone (m n : Nat) (h : m ≤ n) :
    sharesToMilliCPU (milliCPUToShares m) ≤ sharesToMilliCPU (milliCPUToShares n) :=
  shares_to_milli_monotone _ _ (two_le_milliCPUToShares m) (milliCPUToShares_mono h)

theorem quota_to_milli_monotone (q r p : Nat) (h : q ≤ r) :
    quotaToMilliCPU q p ≤ quotaToMilliCPU r p := by
  unfold quotaToMilliCPU
  split
  · exact Nat.zero_le _
  · next hq =>
    have hr : ¬(r = 0 ∨ p = 0) := fun hr => hq (hr.imp_left fun (r0 : r = 0) => Nat.le_zero.1 (r0 ▸ h))
    rw [if_neg hr]
    exact Nat.div_le_div_right
      (Nat.add_le_add_right (Nat.mul_le_mul_left 2 (Nat.mul_le_mul_right 1000 h)) p)

theorem quota_roundtrip_monotone (m n : Nat) (h : m ≤ n) :
    quotaToMilliCPU (milliCPUToQuota m).1 (milliCPUToQuota m).2 ≤
    quotaToMilliCPU (milliCPUToQuota n).1 (milliCPUToQuota n).2 := by
  rw [quota_roundtrip_eq, quota_roundtrip_eq]
  split
  · exact Nat.zero_le _
  · next hm =>
    have hn : n ≠ 0 := fun hn => hm (Nat.le_zero.1 (hn ▸ h))
    rw [if_neg hn]
    exact Nat.max_le.2 ⟨Nat.le_max_left .., Nat.le_trans h (Nat.le_max_right ..)⟩

/-- An estimate oracle is within tolerance if it is at most 2 away from the exact
round-half-up value of `prevReq + cap/1000` (the float expression's error is far below
that for capacities < 2^53; see DESIGN.md). -/
def EstOk (cap : Nat) (est : Nat → Nat → Nat) : Prop :=
  ∀ i prev, exactEst cap prev ≤ est i prev + 2 ∧ est i prev ≤ exactEst cap prev + 2

/-- From a correct entry `j` the construction yields the next `n` correct entries: the
estimate is within 3 of entry `j + 1`, in the bucket below or above its lower boundary, and
the fuel `cap/1000 ≥ 1048` is far more than the distance to walk. -/
theorem buildFrom_ok (cap : Nat) (hc : 2 ^ 20 ≤ cap) (est : Nat → Nat → Nat) (hest : EstOk cap est) :
    ∀ n j, buildFrom cap (cap / 1000) est (j + 1) (smallestReq cap j) n
      = some ((List.range' (j + 1) n).map (smallestReq cap)) := by
  intro n
  induction n with
  | zero => intro j; rfl
  | succ n ih =>
    intro j
    have hk : 1048 ≤ cap / 1000 := (Nat.le_div_iff_mul_le (by decide)).2 (Nat.le_trans (by decide) hc)
    have hest := hest (j + 1) (smallestReq cap j)
    have hex := exactEst_bounds cap (smallestReq cap j)
    have h1 := smallestReq_succ cap j
    have h2 := smallestReq_succ cap (j + 1)
    have step := oomStep_found cap j (est (j + 1) (smallestReq cap j)) (cap / 1000)
      (Nat.le_trans (by decide) hc) (by omega) (by omega) (by omega) (by omega)
    -- (`simp only` with the same equations goes through, but its proof term is slow in the kernel)
    rw [buildFrom, step]
    show (buildFrom cap (cap / 1000) est (j + 1 + 1) (smallestReq cap (j + 1)) n).map _ = _
    rw [ih (j + 1)]; rfl

/-- For every node memory capacity of at least 1 MiB, and every behaviour of the float
estimate within tolerance, the table construction neither panics nor leaves a hole, and
entry `i` is the smallest request whose adjustment is `1000 - i`. -/
theorem oom_table_total (cap : Nat) (hc : 2 ^ 20 ≤ cap) (est : Nat → Nat → Nat) (hest : EstOk cap est) :
    buildFrom cap (cap / 1000) est 1 0 999 = some ((List.range' 1 999).map (smallestReq cap)) := by
  have := buildFrom_ok cap hc est hest 999 0
  simpa [smallestReq] using this

/-- For every Burstable OOM score adjustment the estimated request maps back to it. -/
theorem oom_roundtrip (cap : Nat) (hc : 2 ^ 20 ≤ cap) (adj : Nat) (h3 : 3 ≤ adj) (h999 : adj ≤ 999) :
    memReqToOomAdj cap (tableEntry cap adj) = adj := by
  rw [tableEntry, adj_smallestReq cap (1000 - adj) (by omega)]
  omega

/-- … also through the accessor the cache uses (no memory limit, or a limit above the estimate). -/
theorem oom_accessor_roundtrip (cap : Nat) (hc : 2 ^ 20 ≤ cap) (adj : Nat) (h3 : 3 ≤ adj) (h999 : adj ≤ 999)
    (lim : Nat) (hl : lim = 0 ∨ tableEntry cap adj < lim) :
    ∃ r, oomAdjToMemReq cap adj lim = some r ∧ memReqToOomAdj cap r = adj := by
  refine ⟨tableEntry cap adj, ?_, oom_roundtrip cap hc adj h3 h999⟩
  unfold oomAdjToMemReq
  rw [if_neg (by omega), Int.toNat_natCast]
  exact if_pos hl.symm

-- `EstOk` is satisfiable: the exact estimate is an admissible oracle
example (cap : Nat) : EstOk cap (fun _ prev => exactEst cap prev) := fun _ _ => ⟨Nat.le_add_right _ _, Nat.le_add_right _ _⟩

-- an exact round trip, the floor of 2 shares, and a request that reads back one lower
example : milliCPUToShares 1500 ≠ 2 ∧ sharesToMilliCPU (milliCPUToShares 1500) = 1500 := by decide
example : milliCPUToShares 1 = 2 ∧ sharesToMilliCPU (milliCPUToShares 333) = 332 := by decide

end Nri.K8s
