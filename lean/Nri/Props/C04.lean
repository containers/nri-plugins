import Nri.Model.ApplyGrant
import Nri.Props.C07
import Nri.Props.C12
import Nri.Gen.PipeFacts
/-!
C04 — memory pinning follows the allocator and never oversubscribes a zone (topology-aware half;
the capacity clause is C07's, the delivery clause is C05's).
-/
namespace Nri.TA

/-- regenerated fact: every loop over the allocator's `updates` in the policy sets the grant's
zone and (under PinMemory) the container's cpuset.mems -/
theorem gen_update_loops_ok : Nri.Gen.Pipe.updateLoops =
    ["ReallocMemory: SetMemoryZone+SetCpusetMems", "allocatePool: SetMemoryZone+SetCpusetMems", "reinstateGrants: SetMemoryZone+SetCpusetMems"] := rfl

/-- the memory nodes told for a pinned, non-preserved container are exactly the zone of its grant -/
theorem mems_follow_zone (zone : Nat) (zs : Nat → String) (pinCPU : Bool) (ct : CpuType) :
    Field.mems ∈ applyGrantWrites pinCPU ct false ∧ memsValue true zone zs = zs zone :=
  ⟨mem_applyGrantWrites.2 (.inr ⟨rfl, rfl⟩), rfl⟩

/-- when admitting one container widens other containers' zones, every container named in the
allocator's updates gets exactly the new zone, and nobody else changes -/
theorem updates_all_applied (grants updates : List (String × Nat)) :
    (∀ u ∈ updates, ∀ g ∈ grants, g.1 = u.1 → (updates.find? (·.1 == g.1)).isSome) ∧
    (∀ g ∈ grants, (updates.find? (·.1 == g.1)) = none → g ∈ applyZoneUpdates grants updates) ∧
    (∀ g ∈ applyZoneUpdates grants updates, ∀ u, updates.find? (·.1 == g.1) = some u → g.2 = u.2) := by
  refine ⟨?_, ?_, ?_⟩
  · exact fun u hu g _ hgu => List.find?_isSome.2 ⟨u, hu, beq_iff_eq.2 hgu.symm⟩
  · intro g hg hnone
    simp only [applyZoneUpdates, List.mem_map]
    exact ⟨g, hg, by simp [hnone]⟩
  · intro g hg u hu
    simp only [applyZoneUpdates, List.mem_map] at hg
    obtain ⟨g0, _, rfl⟩ := hg
    cases h0 : updates.find? (·.1 == g0.1) with
    | none => simp only [h0] at hu; cases hu
    | some u0 =>
      simp only [h0] at hu ⊢
      cases hu
      rfl

/-- capacity: the allocator-level fact `handleOvercommit_ok_fits` (C07 states it as
`handled_zones_fit`), restated here so that the axiom audit, which reads the theorem names of this file, lists it -/
theorem zones_fit_after_handling (s : Nri.LibMem.St) (nodes : Nri.LibMem.Mask) (h : (s.handleOvercommit nodes).2 = none) :
    ∀ z ∈ (s.handleOvercommit nodes).1.entries, (nodes = 0 ∨ z &&& nodes ≠ 0) → 0 ≤ (s.handleOvercommit nodes).1.zoneFree z :=
  Nri.LibMem.handleOvercommit_ok_fits s nodes h

/-- capacity over whole histories (the clause "after every successful request, for every set of
nodes that has allocations confined to it ..." for the sets that ARE assignments): whatever
sequence of allocator operations the policies issue, every assigned zone - hence every memory set
a container is pinned to - holds no more than its capacity afterwards. (C07 `run_fits`; the literal
clause over all node sets is the known finding C07:union-overcommit.) -/
theorem assigned_zones_fit_over_histories (nodes : List Nri.LibMem.Node) (ops : List Nri.LibMem.Op)
    (hops : ∀ op ∈ ops, op.sizeOk) :
    ∀ q ∈ (Nri.LibMem.St.run { nodes := nodes } ops).reqs,
      0 ≤ (Nri.LibMem.St.run { nodes := nodes } ops).zoneFree q.zone := by
  intro q hq
  have h := Nri.LibMem.run_fits nodes ops hops
  exact h.fit q hq (h.inv.placed.assigned q hq)

/-- ... and the memory set a pinned container is told is never empty: every assignment contains
a node with normal memory (C07 `run_placement`). -/
theorem assigned_zone_nonempty_over_histories (nodes : List Nri.LibMem.Node) (ops : List Nri.LibMem.Op) :
    ∀ q ∈ (Nri.LibMem.St.run { nodes := nodes } ops).reqs, q.zone ≠ 0 := by
  intro q hq
  exact (Nri.LibMem.run_placement nodes ops).placed.assigned q hq

end Nri.TA
