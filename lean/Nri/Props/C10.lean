import Nri.Model.SaveFs
import Nri.Gen.SaveFacts
/-!
C10 — crash atomicity of Save, refusal of unsafe cache files/directories.

For every previous file-system state (any snapshot file, ANY leftover temporary file), every new
snapshot and every crash point (system-call boundary and byte offset of the write) the snapshot
file is the previous one or the complete new one; over a history of completed and crashed saves
it is the data of the last completed one.  The O_TRUNC flag is necessary (`no_trunc_refuted`).
`checkPerm` refuses symbolic links, wrong file types and group/other writable entries.

The round trip Restore(Snapshot(c)) = c goes through encoding/json and is checked by the
correspondence run on generated cache contents (every public getter), not proved.
-/
namespace Nri.SaveFs

/-- what `saveProg`, `checkPerm` and the mask 0o022 are modelled after, as regenerated from the source; that
`os.WriteFile` is open(O_WRONLY|O_CREATE|O_TRUNC), write, close is trusted -/
theorem gen_save_facts_ok :
    Nri.Gen.Save.saveCalls = ["cch.Snapshot()", "os.WriteFile(tmpPath, data, cacheFilePerm.prefer)", "os.Rename(tmpPath, cch.filePath)"] ∧
    Nri.Gen.Save.tmpPathDef = "cch.filePath + \".saving\"" ∧
    Nri.Gen.Save.otherFileWrites = [] ∧
    Nri.Gen.Save.checkPermSteps = ["os.Lstat(path)", "symlink", "isDir:!info.IsDir()", "file:info.Mode()&os.ModeType != 0", "existing&rejected != 0"] ∧
    Nri.Gen.Save.rejectMasks = [18, 18, 18, 18] ∧
    Nri.Gen.Save.newCacheChecks = ["checkPerm(cch.filePath,false,cacheFilePerm)", "mkdirAll(options.CacheDir,cacheDirPerm)", "mkdirAll(cch.dataDir,dataDirPerm)", "Load()"] :=
  ⟨rfl, rfl, rfl, rfl, rfl, rfl⟩

theorem save_complete (fs : Fs) (data : Bytes) :
    (run fs (saveProg data)).cache = some data ∧ (run fs (saveProg data)).tmp = none := by
  simp [run, saveProg, exec, overwrite]

theorem crash_cache (fs : Fs) (data : Bytes) (n k : Nat) :
    (crashed fs data n k).cache = if n ≥ 4 then some data else fs.cache := by
  match n with
  | 0 | 1 | 2 | 3 => rfl    -- no call before the rename writes `cache`
  | n+4 => rw [if_pos (Nat.le_add_left 4 n)]; exact (save_complete fs data).1

/-- **Crash atomicity.** Whatever the previous snapshot file and whatever leftover temporary
file exist, and wherever the save is interrupted, the snapshot file is the previous one or the
complete new one. -/
theorem save_atomic (fs : Fs) (data : Bytes) (n k : Nat) :
    (crashed fs data n k).cache = fs.cache ∨ (crashed fs data n k).cache = some data := by
  rw [crash_cache]
  split
  · exact Or.inr rfl
  · exact Or.inl rfl

theorem stepSave_cache (fs : Fs) (o : SaveOp) :
    (stepSave fs o).cache = if o.completed then some o.data else fs.cache := by
  rcases o with ⟨data, _ | ⟨n, k⟩⟩
  · exact (save_complete fs data).1
  · simpa [stepSave, SaveOp.completed] using crash_cache fs data n k

/-- the data of the last completed save of a history, if any -/
def lastCompleted (init : Option Bytes) : List SaveOp → Option Bytes
  | [] => init
  | o :: os => lastCompleted (if o.completed then some o.data else init) os

/-- **Histories.** After any sequence of completed and interrupted saves - each interrupted at an
arbitrary point, with arbitrary leftovers - the snapshot file holds exactly the data of the last
completed save (or is the initial file if none completed): always a complete snapshot. -/
theorem history_last_completed (ops : List SaveOp) : ∀ (fs : Fs),
    (ops.foldl stepSave fs).cache = lastCompleted fs.cache ops := by
  induction ops with
  | nil => intro fs; rfl
  | cons o os ih =>
    intro fs
    rw [List.foldl_cons, lastCompleted, ih, stepSave_cache]

/-- the snapshot file changes only at a save that gets as far as the rename (`stepSave_cache`) -/
theorem history_snapshot_completed (ops : List SaveOp) (fs : Fs) :
    (ops.foldl stepSave fs).cache = fs.cache ∨
      ∃ o ∈ ops, o.completed = true ∧ (ops.foldl stepSave fs).cache = some o.data :=
  List.foldlRecOn (motive := fun a => a.cache = fs.cache ∨ ∃ o ∈ ops, o.completed = true ∧ a.cache = some o.data)
    ops stepSave (Or.inl rfl) fun a h o ho => by
      rw [stepSave_cache]
      split
      · exact Or.inr ⟨o, ho, ‹_›, rfl⟩
      · exact h

/-- hence the file is always one of the complete snapshots ever handed to Save, or the initial file -/
theorem history_complete_snapshot (ops : List SaveOp) (fs : Fs) :
    (ops.foldl stepSave fs).cache = fs.cache ∨ ∃ o ∈ ops, (ops.foldl stepSave fs).cache = some o.data :=
  (history_snapshot_completed ops fs).imp_right fun ⟨o, ho, _, h⟩ => ⟨o, ho, h⟩

/-- O_TRUNC matters: the same program without it lets a longer leftover temporary file leak its
tail into the snapshot (this is not the code's behaviour; the regenerated `saveCalls` pins
`os.WriteFile`, which truncates) -/
theorem no_trunc_refuted :
    ∃ (fs : Fs) (data : Bytes), (run fs [.openNoTrunc, .write data, .close, .rename]).cache ≠ some data :=
  ⟨⟨none, some [1, 2, 3, 4]⟩, [9], by decide⟩

theorem perm_symlink_refused (isDir : Bool) (mode reject : Nat) : checkPerm isDir .symlink mode reject = .refuse := rfl

theorem perm_wrong_type_refused (mode reject : Nat) :
    checkPerm true .regular mode reject = .refuse ∧ checkPerm false .dir mode reject = .refuse ∧
    checkPerm true .other mode reject = .refuse ∧ checkPerm false .other mode reject = .refuse := ⟨rfl, rfl, rfl, rfl⟩

theorem perm_rejected_bits_refused (isDir : Bool) (kind : Kind) (mode reject : Nat) (hk : kind ≠ .absent)
    (hb : mode &&& reject ≠ 0) : checkPerm isDir kind mode reject = .refuse := by
  cases kind <;> cases isDir <;> simp_all [checkPerm]

theorem perm_accept_iff (isDir : Bool) (kind : Kind) (mode reject : Nat) :
    checkPerm isDir kind mode reject = .accept ↔
      (kind = (if isDir then .dir else .regular)) ∧ mode &&& reject = 0 := by
  cases kind <;> cases isDir <;> simp [checkPerm]

/-- with the code's reject mask 0o022 (regenerated), group- or other-writable is refused -/
theorem group_other_writable_refused (isDir : Bool) (kind : Kind) (mode : Nat) (hk : kind ≠ .absent)
    (hw : mode &&& 0o022 ≠ 0) : checkPerm isDir kind mode 18 = .refuse :=
  perm_rejected_bits_refused isDir kind mode 18 hk hw

-- a save killed after one byte of the write keeps the old snapshot and leaves a partial temporary file;
-- 0o644 passes the code's mask, group-writable 0o664 does not
example : (crashed ⟨some [1], some [7, 7, 7]⟩ [2, 3] 1 1).cache = some [1] ∧ (crashed ⟨some [1], some [7, 7, 7]⟩ [2, 3] 1 1).tmp = some [2] := ⟨rfl, rfl⟩
example : checkPerm false .regular 0o644 18 = .accept ∧ checkPerm false .regular 0o664 18 = .refuse := ⟨rfl, rfl⟩

end Nri.SaveFs
