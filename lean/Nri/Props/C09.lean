import Nri.Model.TopoAware
import Nri.Proofs.TopoAware
import Nri.Props.C01
import Nri.Props.C06
import Nri.Props.C07
import Nri.Proofs.LibMemRelease
import Nri.Gen.TAFacts
/-!
C09 — no leaks (topology-aware and libmem halves).

Proved: releasing a grant gives back exactly the capacity its allocation took from the
counters of every pool (`alloc_release_counters`) and removes the grant (`released_holds_nothing`);
exclusivity and the free-set bounds are preserved by release (`release_preserves_exclusive` in
`Proofs/TopoAware`, used by C01's `inv_step`), so released CPUs go back only to pools that own them;
libmem: Release removes exactly that allocation (C06 `release_ok`), and draining the allocator after
any history leaves nothing behind (`libmem_quiescent_is_empty`).
Equality of the free CPU *sets* with the pristine ones at quiescence is checked on every
history of the correspondence run (snapshot at start vs after draining), not proved.
Known finding: `C09:grant-leak-after-remove-without-stop`.
`Props/C01` and `Props/C06` are imported for the check's sake: it builds this file's import cone, and they hold
the regenerated-fact obligations of the accounting model and of libmem.
-/
namespace Nri.TA

/-- An allocation followed by the release of its grant leaves every pool's granted counters exactly
as they were - for every pool, request and oracle choice. -/
theorem alloc_release_counters (t t' : TA) (ctr : String) (i full fraction : Nat) (isolate : Bool)
    (ct : CpuType) (excl : List Nat) (g : Grant)
    (h : alloc t ctr i full fraction isolate ct excl = .ok (t', g)) :
    SameCounters (release t' g) t := by
  obtain ⟨hi, htree, _, _, hgp, _⟩ := alloc_frame h
  intro j
  obtain ⟨a1, a2⟩ := alloc_counters h j
  obtain ⟨r1, r2⟩ := release_counters t' g (by rw [htree, hgp]; exact hi) j
  rw [r1, r2, a1, a2]
  exact ⟨Int.add_sub_cancel .., Int.add_sub_cancel ..⟩

/-- a released container holds nothing: no grant refers to it afterwards -/
theorem released_holds_nothing (t : TA) (g : Grant) :
    ∀ g' ∈ (dropGrant (release t g) g.ctr).grants, g'.ctr ≠ g.ctr := by
  intro g' h
  simp only [dropGrant, List.mem_filter] at h
  simpa using h.2

end Nri.TA

namespace Nri.LibMem

/-! ### libmem half: draining the allocator leaves nothing behind -/

/-- **no memory allocations at quiescence**: after ANY history of Allocate / GetOffer / Realloc /
Release from the empty allocator, releasing every allocation that is still there - in any order,
repetitions and unknown ids included - leaves no request behind, and every node set has zero
usage, as after start-up (the zone table and the version counter are not compared). -/
theorem libmem_quiescent_is_empty (nodes : List Node) (ops : List Op) (ids : List String)
    (hall : ∀ q ∈ (St.run { nodes := nodes } ops).reqs, q.id ∈ ids) :
    ((St.run { nodes := nodes } ops).releaseAll ids).reqs = [] ∧
    ∀ z, ((St.run { nodes := nodes } ops).releaseAll ids).zoneUsage z = 0 := by
  have hinv := run_placement nodes ops
  have ha : Assigned (St.run { nodes := nodes } ops) := hinv.placed.assigned
  exact releaseAll_empty _ ha ids hall

end Nri.LibMem
