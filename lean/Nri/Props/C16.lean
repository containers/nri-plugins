import Nri.Model.Topo
import Nri.Gen.TopoFacts
import Nri.Proofs.Logic
/-!
C16 — discovery fidelity and pool-tree well-formedness.

Proved here:
* `expand_compress` — the kernel list format (as maximal ranges) loses nothing;
* `supply_*` — `getCpuSupply` splits a pool's CPUs disjointly into isolated / reserved / sharable,
  exactly covering the pool's available CPUs, provided reserved and isolated CPUs are disjoint
  (the excluded "reserved cpuset is itself isolated" configuration is the only way they are not);
* `supply_mono`, `supply_disjoint` — pools built from nested CPU sets are nested, pools built from
  disjoint CPU sets are disjoint;
* `pkg_disjoint`, `die_subset_pkg`, `die_disjoint`, `pkg_subset_all` — sockets/dies of any machine
  with unique CPU ids are nested and disjoint as the tree needs;
* `root_holds_allowed` — the root's supply is exactly the available CPUs.
Tree shape (single root, level omission rules, memory attachment) is compared pool by pool with
the executable model and checked by `poolsWF` on every generated machine (sampled; partial).
-/
namespace Nri.Topo

theorem gen_topo_facts_ok :
    Nri.Gen.Topo.supplyOrder = ["allowed", "isolated", "reserved", "sharable"] ∧
    Nri.Gen.Topo.reservedFromExcludesIsolated = true ∧
    Nri.Gen.Topo.virtualRootIfMultiSocket = true := ⟨rfl, rfl, rfl⟩

def StrictlyIncreasing : List Nat → Prop
  | [] => True
  | [_] => True
  | x :: y :: rest => x < y ∧ StrictlyIncreasing (y :: rest)

theorem rangeList_cons (lo hi : Nat) (h : lo ≤ hi) : rangeList lo hi = lo :: rangeList (lo + 1) hi := by
  unfold rangeList
  rw [Nat.succ_sub h, List.range'_succ, Nat.add_sub_add_right]

theorem rangeList_self (x : Nat) : rangeList x x = [x] := by
  simp [rangeList]

theorem expand_cons (r : Nat × Nat) (rs : List (Nat × Nat)) : expand (r :: rs) = rangeList r.1 r.2 ++ expand rs :=
  List.flatMap_cons

theorem compress_cons_spec : ∀ (xs : List Nat) (x : Nat), StrictlyIncreasing (x :: xs) →
    ∃ hi rest, compress (x :: xs) = (x, hi) :: rest ∧ x ≤ hi ∧ expand ((x, hi) :: rest) = x :: xs
  | [], x, _ => ⟨x, [], rfl, Nat.le_refl x, by rw [expand_cons, rangeList_self]; rfl⟩
  | y :: ys, x, hs => by
    obtain ⟨hi, rest, hc, hle, he⟩ := compress_cons_spec ys y hs.2
    have hxh : x ≤ hi := Nat.le_trans (Nat.le_of_lt hs.1) hle
    by_cases h1 : x + 1 = y
    · -- `x` extends the first range of the tail
      refine ⟨hi, rest, by rw [compress, hc]; exact if_pos h1, hxh, ?_⟩
      rw [expand_cons, rangeList_cons x hi hxh, h1, List.cons_append, ← expand_cons (y, hi), he]
    · refine ⟨x, (y, hi) :: rest, by rw [compress, hc]; exact if_neg h1, Nat.le_refl x, ?_⟩
      rw [expand_cons, rangeList_self, he]; rfl

theorem expand_compress (s : List Nat) (h : StrictlyIncreasing s) : expand (compress s) = s := by
  cases s with
  | nil => rfl
  | cons x xs =>
    obtain ⟨hi, rest, hc, _, he⟩ := compress_cons_spec xs x h
    rw [hc, he]

theorem mem_sinter (a b : List Nat) (x : Nat) : x ∈ sinter a b ↔ x ∈ a ∧ x ∈ b := mem_inter

theorem mem_sdiff (a b : List Nat) (x : Nat) : x ∈ sdiff a b ↔ x ∈ a ∧ x ∉ b := mem_diff

theorem mem_supply_isolated (cpus allowed isolated reserved : List Nat) (x : Nat) :
    x ∈ (cpuSupply cpus allowed isolated reserved).1 ↔ (x ∈ cpus ∧ x ∈ allowed) ∧ x ∈ isolated := by
  simp only [cpuSupply, mem_sinter]

theorem mem_supply_reserved (cpus allowed isolated reserved : List Nat) (x : Nat) :
    x ∈ (cpuSupply cpus allowed isolated reserved).2.1 ↔ (x ∈ cpus ∧ x ∈ allowed) ∧ x ∈ reserved := by
  simp only [cpuSupply, mem_sinter]

theorem mem_supply_sharable (cpus allowed isolated reserved : List Nat) (x : Nat) :
    x ∈ (cpuSupply cpus allowed isolated reserved).2.2 ↔
      (x ∈ cpus ∧ x ∈ allowed) ∧ x ∉ isolated ∧ x ∉ reserved := by
  simp only [cpuSupply, mem_sdiff, mem_sinter]
  constructor
  · exact fun ⟨⟨h, hi⟩, hr⟩ => ⟨h, fun hh => hi ⟨h, hh⟩, fun hh => hr ⟨h, hh⟩⟩
  · exact fun ⟨h, hi, hr⟩ => ⟨⟨h, fun hh => hi hh.2⟩, fun hh => hr hh.2⟩

theorem supply_disjoint_parts (cpus allowed isolated reserved : List Nat)
    (hri : ∀ x, x ∈ reserved → x ∉ isolated) :
    let s := cpuSupply cpus allowed isolated reserved
    (∀ x, x ∈ s.1 → x ∉ s.2.1) ∧ (∀ x, x ∈ s.1 → x ∉ s.2.2) ∧ (∀ x, x ∈ s.2.1 → x ∉ s.2.2) := by
  simp only [mem_supply_isolated, mem_supply_reserved, mem_supply_sharable]
  exact ⟨fun x hi hr => hri x hr.2 hi.2, fun x hi hs => hs.2.1 hi.2, fun x hr hs => hs.2.2 hr.2⟩

theorem supply_cover (cpus allowed isolated reserved : List Nat) (x : Nat) :
    let s := cpuSupply cpus allowed isolated reserved
    (x ∈ s.1 ∨ x ∈ s.2.1 ∨ x ∈ s.2.2) ↔ (x ∈ cpus ∧ x ∈ allowed) := by
  simp only [mem_supply_isolated, mem_supply_reserved, mem_supply_sharable]
  constructor
  · rintro (h | h | h) <;> exact h.1
  · intro h
    by_cases hi : x ∈ isolated
    · exact Or.inl ⟨h, hi⟩
    · by_cases hr : x ∈ reserved
      · exact Or.inr (Or.inl ⟨h, hr⟩)
      · exact Or.inr (Or.inr ⟨h, hi, hr⟩)

theorem supply_mono (c1 c2 allowed isolated reserved : List Nat) (h : ∀ x, x ∈ c1 → x ∈ c2) (x : Nat) :
    let s1 := cpuSupply c1 allowed isolated reserved
    let s2 := cpuSupply c2 allowed isolated reserved
    (x ∈ s1.1 ∨ x ∈ s1.2.1 ∨ x ∈ s1.2.2) → (x ∈ s2.1 ∨ x ∈ s2.2.1 ∨ x ∈ s2.2.2) := by
  intro s1 s2 h1
  have := (supply_cover c1 allowed isolated reserved x).1 h1
  exact (supply_cover c2 allowed isolated reserved x).2 ⟨h x this.1, this.2⟩

theorem supply_disjoint (c1 c2 allowed isolated reserved : List Nat) (h : ∀ x, x ∈ c1 → x ∉ c2) (x : Nat) :
    let s1 := cpuSupply c1 allowed isolated reserved
    let s2 := cpuSupply c2 allowed isolated reserved
    (x ∈ s1.1 ∨ x ∈ s1.2.1 ∨ x ∈ s1.2.2) → ¬ (x ∈ s2.1 ∨ x ∈ s2.2.1 ∨ x ∈ s2.2.2) := by
  intro s1 s2 h1 h2
  have a := (supply_cover c1 allowed isolated reserved x).1 h1
  have b := (supply_cover c2 allowed isolated reserved x).1 h2
  exact h x a.1 b.1

/-- the root pool is built from all CPUs, or from the only socket: if its CPUs include the allowed ones
(`h`, not derived from `buildPools`), its supply is exactly the allowed CPUs -/
theorem root_holds_allowed (rootCpus allowed isolated reserved : List Nat)
    (h : ∀ x, x ∈ allowed → x ∈ rootCpus) (x : Nat) :
    let s := cpuSupply rootCpus allowed isolated reserved
    (x ∈ s.1 ∨ x ∈ s.2.1 ∨ x ∈ s.2.2) ↔ x ∈ allowed :=
  (supply_cover rootCpus allowed isolated reserved x).trans ⟨And.right, fun hh => ⟨h x hh, hh⟩⟩

theorem mem_pkgCpus (m : Machine) (s x : Nat) :
    x ∈ m.pkgCpus s ↔ ∃ c ∈ m.cpus, c.id = x ∧ c.online = true ∧ c.pkg = s := by
  simp only [Machine.pkgCpus, List.mem_map, List.mem_filter, Bool.and_eq_true, beq_iff_eq]
  exact ⟨fun ⟨c, ⟨hc, h⟩, hx⟩ => ⟨c, hc, hx, h⟩, fun ⟨c, hc, hx, h⟩ => ⟨c, ⟨hc, h⟩, hx⟩⟩

theorem mem_dieCpus (m : Machine) (s d x : Nat) :
    x ∈ m.dieCpus s d ↔ ∃ c ∈ m.cpus, c.id = x ∧ c.online = true ∧ c.pkg = s ∧ c.die = d := by
  simp only [Machine.dieCpus, List.mem_map, List.mem_filter, Bool.and_eq_true, beq_iff_eq]
  exact ⟨fun ⟨c, ⟨hc, ⟨ho, hp⟩, hd⟩, hx⟩ => ⟨c, hc, hx, ho, hp, hd⟩,
    fun ⟨c, hc, hx, ho, hp, hd⟩ => ⟨c, ⟨hc, ⟨ho, hp⟩, hd⟩, hx⟩⟩

def Machine.UniqueIds (m : Machine) : Prop := ∀ c ∈ m.cpus, ∀ c' ∈ m.cpus, c.id = c'.id → c = c'

theorem pkg_subset_all (m : Machine) (s x : Nat) (h : x ∈ m.pkgCpus s) : x ∈ m.allCpus := by
  rw [mem_pkgCpus] at h
  obtain ⟨c, hc, rfl, _, _⟩ := h
  exact List.mem_map_of_mem hc

theorem pkg_disjoint (m : Machine) (hu : m.UniqueIds) (s s' x : Nat) (hne : s ≠ s')
    (h : x ∈ m.pkgCpus s) : x ∉ m.pkgCpus s' := by
  intro h'
  rw [mem_pkgCpus] at h h'
  obtain ⟨c, hc, rfl, _, rfl⟩ := h
  obtain ⟨c', hc', hid, _, rfl⟩ := h'
  exact hne (congrArg CPU.pkg (hu c hc c' hc' hid.symm))

theorem die_subset_pkg (m : Machine) (s d x : Nat) (h : x ∈ m.dieCpus s d) : x ∈ m.pkgCpus s := by
  rw [mem_dieCpus] at h
  rw [mem_pkgCpus]
  obtain ⟨c, hc, hid, ho, hp, _⟩ := h
  exact ⟨c, hc, hid, ho, hp⟩

theorem die_disjoint (m : Machine) (hu : m.UniqueIds) (s d d' x : Nat) (hne : d ≠ d')
    (h : x ∈ m.dieCpus s d) : x ∉ m.dieCpus s d' := by
  intro h'
  rw [mem_dieCpus] at h h'
  obtain ⟨c, hc, rfl, _, _, rfl⟩ := h
  obtain ⟨c', hc', hid, _, _, rfl⟩ := h'
  exact hne (congrArg CPU.die (hu c hc c' hc' hid.symm))

/-- NUMA-node pools: the node pool's CPUs are inside the socket's if the machine description says so
(`hcons`: every CPU listed by node `n` is an online CPU of socket `s`; the model's `MNode.cpus` lists are
arbitrary, so this cannot be derived) -/
theorem node_subset_pkg (m : Machine) (s n : Nat)
    (hcons : ∀ x ∈ m.nodeCpus n, ∃ c ∈ m.cpus, c.id = x ∧ c.online = true ∧ c.pkg = s)
    (x : Nat) (h : x ∈ m.nodeCpus n) : x ∈ m.pkgCpus s := by
  rw [mem_pkgCpus]; exact hcons x h

example : compress [0,1,2,3,8,10,11] = [(0,3),(8,8),(10,11)] := rfl
example : expand [(0,3),(8,8),(10,11)] = [0,1,2,3,8,10,11] := rfl
example : StrictlyIncreasing [0,1,2,3,8,10,11] := by simp [StrictlyIncreasing]

end Nri.Topo
