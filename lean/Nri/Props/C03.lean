import Nri.Model.TopoAware
import Nri.Proofs.TopoAware
import Nri.Gen.TAFacts
/-!
C03 — pool CPU capacity is never oversubscribed; grants match requests.

Proved: the eligibility rules (`cpuPrefs` = `cpuAllocationPreferences`) give exclusive CPUs to
nobody but Guaranteed containers with at least one whole CPU that do not prefer shared CPUs
(`cpuPrefs_full_pos`), and to such a container without annotations exactly the whole-CPU part of a
request below two CPUs or of an integral one (`cpuPrefs_guaranteed`); a successful allocation grants exactly the
requested number of exclusive CPUs, isolated ones only if all of them are isolated; the
fractional part is admitted (`addPortion`) only within the capacity of the pool and of every ancestor
(`portion_within_capacity`, `portion_within_every_ancestor`).  The capacity invariant for *descendants* of a pool at which
exclusive CPUs are sliced off is FALSE of model and code (known finding
`C03:descendant-starved-by-ancestor-slicing`, witness `descendant_capacity_refuted`).
-/
namespace Nri.TA

theorem gen_eligibility_ok : Nri.Gen.TA.eligibilityCases =
    ["container.PreserveCpuResources()", "preferReserved", "checkReservedPoolNamespaces(namespace) && !explicitReservation",
     "qosClass == corev1.PodQOSBurstable", "qosClass == corev1.PodQOSBestEffort", "cores == 0", "cores < 2", "default"] := rfl

/-- One step down a decision list whose head grants no exclusive CPU. -/
theorem full_ite_ne_zero {c : Prop} [Decidable c] {p e : Prefs} (hp : p.full = 0)
    (h : (if c then p else e).full ≠ 0) : ¬c ∧ e.full ≠ 0 := by
  by_cases hc : c
  · rw [if_pos hc] at h; exact absurd hp h
  · rw [if_neg hc] at h; exact ⟨hc, h⟩

theorem full_ite_eq_zero {c : Prop} [Decidable c] {p e : Prefs} (hp : p.full = 0) (he : e.full = 0) :
    (if c then p else e).full = 0 := by
  by_cases hc : c
  · rw [if_pos hc]; exact hp
  · rw [if_neg hc]; exact he

/-- Exclusive CPUs go to nobody but a Guaranteed container that asks for at least one whole CPU,
has not opted out (`cpu.preserve`, reserved by annotation or by namespace) and whose effective
shared-CPU preference (annotation, else configured default) is off. -/
theorem cpuPrefs_full_pos {qos milli : Nat} {rns pc : Bool} {ra sa ia cs ci : Option Bool}
    (h : (cpuPrefs qos milli rns pc ra sa ia cs ci).full ≠ 0) :
    pc = false ∧ ra ≠ some true ∧ ¬(rns = true ∧ ra = none) ∧ qos ≠ 1 ∧ qos ≠ 2 ∧ 1000 ≤ milli ∧
      sa.getD (cs.getD false) = false := by
  unfold cpuPrefs at h
  -- the opt-outs, the two lower QoS classes and `cores == 0`, in the order of the code
  obtain ⟨hpc, h⟩ := full_ite_ne_zero rfl h
  obtain ⟨hra, h⟩ := full_ite_ne_zero rfl h
  obtain ⟨hns, h⟩ := full_ite_ne_zero rfl h
  obtain ⟨hq1, h⟩ := full_ite_ne_zero rfl h
  obtain ⟨hq2, h⟩ := full_ite_ne_zero rfl h
  obtain ⟨hc0, h⟩ := full_ite_ne_zero rfl h
  refine ⟨by simpa using hpc, by simpa using hra, by simpa using hns, by simpa using hq1,
    by simpa using hq2, ?_, ?_⟩
  · have : milli / 1000 ≠ 0 := by simpa using hc0
    exact Nat.le_of_not_lt fun hlt => this (Nat.div_eq_of_lt hlt)
  -- with a shared preference, annotated or configured, every remaining leaf has `full = 0`
  · rcases sa with _ | _ | _
    · rcases cs with _ | _ | _
      · rfl
      · rfl
      · exact absurd (full_ite_eq_zero rfl (full_ite_eq_zero rfl rfl)) h
    · rfl
    · exact absurd (full_ite_eq_zero rfl (full_ite_eq_zero rfl rfl)) h

theorem besteffort_no_exclusive (milli : Nat) (rns pc : Bool) (ra sa ia cs ci : Option Bool) :
    (cpuPrefs 2 milli rns pc ra sa ia cs ci).full = 0 :=
  Decidable.byContradiction fun h => let ⟨_, _, _, _, hq, _, _⟩ := cpuPrefs_full_pos h; hq rfl

theorem burstable_no_exclusive (milli : Nat) (rns pc : Bool) (ra sa ia cs ci : Option Bool) :
    (cpuPrefs 1 milli rns pc ra sa ia cs ci).full = 0 :=
  Decidable.byContradiction fun h => let ⟨_, _, _, hq, _, _, _⟩ := cpuPrefs_full_pos h; hq rfl

theorem subcore_no_exclusive (qos milli : Nat) (rns pc : Bool) (ra sa ia cs ci : Option Bool) (h : milli < 1000) :
    (cpuPrefs qos milli rns pc ra sa ia cs ci).full = 0 :=
  Decidable.byContradiction fun h' =>
    let ⟨_, _, _, _, _, hm, _⟩ := cpuPrefs_full_pos h'; Nat.not_le_of_lt h hm

theorem reserved_class_no_exclusive (qos milli : Nat) (pc : Bool) (sa ia cs ci : Option Bool) :
    (cpuPrefs qos milli true pc none sa ia cs ci).full = 0 ∧ (cpuPrefs qos milli false pc (some true) sa ia cs ci).full = 0 :=
  ⟨Decidable.byContradiction fun h => let ⟨_, _, hns, _⟩ := cpuPrefs_full_pos h; hns ⟨rfl, rfl⟩,
   Decidable.byContradiction fun h => let ⟨_, hra, _⟩ := cpuPrefs_full_pos h; hra rfl⟩

theorem shared_preferring_no_exclusive (qos milli : Nat) (rns pc : Bool) (ra ia cs ci : Option Bool) :
    (cpuPrefs qos milli rns pc ra (some true) ia cs ci).full = 0 :=
  Decidable.byContradiction fun h =>
    let ⟨_, _, _, _, _, _, hs⟩ := cpuPrefs_full_pos h; Bool.noConfusion hs

/-- A Guaranteed container that opts out of nothing and has no shared preference gets the whole-CPU
part of its request exclusively and the remainder as shared portion, if the request is below two
CPUs or integral (a larger fractional request is served from the shared set as a whole). -/
theorem cpuPrefs_guaranteed {milli : Nat} (ia ci : Option Bool) (hm : milli < 2000 ∨ milli % 1000 = 0) :
    (cpuPrefs 0 milli false false none none ia none ci).full = milli / 1000 ∧
    (cpuPrefs 0 milli false false none none ia none ci).fraction = milli % 1000 := by
  unfold cpuPrefs
  rw [if_neg (by decide), if_neg (by decide), if_neg (by decide), if_neg (by decide), if_neg (by decide)]
  by_cases h0 : (milli / 1000 == 0) = true
  · rw [if_pos h0]; exact ⟨(eq_of_beq h0).symm, rfl⟩
  rw [if_neg h0]
  by_cases h2 : milli / 1000 < 2
  · rw [if_pos h2]; exact ⟨rfl, rfl⟩
  have hf : milli % 1000 = 0 := hm.resolve_left fun h => h2 (Nat.div_lt_of_lt_mul h)
  rw [if_neg h2, if_neg (Nat.not_lt.2 (Nat.le_of_eq hf))]
  exact ⟨rfl, hf.symm⟩

/-- a Guaranteed container with an integral request of at least one CPU, no opt-outs and no
shared preference gets exactly its whole-CPU request exclusively and no shared portion -/
theorem guaranteed_whole_cpus (n : Nat) (ia : Option Bool) :
    (cpuPrefs 0 (1000 * n) false false none none ia none none).full = n ∧
    (cpuPrefs 0 (1000 * n) false false none none ia none none).fraction = 0 :=
  (cpuPrefs_guaranteed ia none (.inr (Nat.mul_mod_right ..))).imp
    (·.trans (Nat.mul_div_cancel_left n (by decide))) (·.trans (Nat.mul_mod_right ..))

/-- mixed allocation: 1 ≤ request < 2 CPUs keeps the whole CPU exclusive and the rest shared -/
theorem guaranteed_mixed (f : Nat) (hf : f < 1000) (ia : Option Bool) :
    (cpuPrefs 0 (1000 + f) false false none none ia none none).full = 1 ∧
    (cpuPrefs 0 (1000 + f) false false none none ia none none).fraction = f := by
  have hd : (1000 + f) / 1000 = 1 := by rw [Nat.add_div_left _ (by decide), Nat.div_eq_of_lt hf]
  have hm : (1000 + f) % 1000 = f := by rw [Nat.add_mod_left, Nat.mod_eq_of_lt hf]
  exact (cpuPrefs_guaranteed ia none (.inl (Nat.add_lt_add_left hf 1000))).imp (·.trans hd) (·.trans hm)

theorem takeExclusive_count (t t1 : TA) (i full : Nat) (isolate : Bool) (excl : List Nat)
    (h : takeExclusive t i full isolate excl = .ok t1) : excl.length = full ∧ excl.Nodup :=
  ⟨(takeExclusive_ok h).1, (takeExclusive_ok h).2.1⟩

/-- exactly as many exclusive CPUs as the (normalised) request asks for, all distinct; and
isolated CPUs only if ALL exclusive CPUs are isolated (they are picked from one set) -/
theorem alloc_grants_request (t t' : TA) (ctr : String) (i full fraction : Nat) (isolate : Bool)
    (ct : CpuType) (excl : List Nat) (g : Grant)
    (h : alloc t ctr i full fraction isolate ct excl = .ok (t', g)) :
    g.exclusive.length = (normReq t i full fraction ct).1 ∧ g.exclusive.Nodup ∧
    ((∀ x, x ∈ g.exclusive → x ∈ (t.pools i).isolated) ∨ (∀ x, x ∈ g.exclusive → x ∈ (t.pools i).sharable) ∨ g.exclusive = []) := by
  obtain ⟨_, hlen, hnd, rfl, _, hpick, _⟩ := alloc_ok h
  exact ⟨hlen, hnd, hpick.elim (fun h => .inl h.1) (fun h => .inr (.inl h.1))⟩

/-- the shared portion is admitted only within the remaining capacity of the pool and of all its
ancestors (what `AllocatableSharedCPU` checks) -/
theorem portion_within_capacity (t2 t' : TA) (ctr : String) (i fraction : Nat) (excl : List Nat) (g : Grant)
    (hf : 0 < fraction) (h : addPortion t2 ctr i fraction .normal excl = .ok (t', g)) :
    (fraction : Int) ≤ allocatableShared t2 i ∧ g.portion = fraction := by
  obtain ⟨rfl, _, hcap⟩ := addPortion_ok h
  exact ⟨hcap hf rfl, rfl⟩

/-- capacity of pool `j` that is still unpromised: 1000 mCPU per CPU of its free shared set minus everything granted in its subtree -/
def ownShared (t : TA) (j : Nat) : Int := 1000 * ((t.pools j).sharable.length : Int) - subtreeShared t j

theorem foldl_min_le (own : Nat → Int) (l : List Nat) : ∀ (m0 : Int),
    l.foldl (fun m a => if own a < m then own a else m) m0 ≤ m0 ∧
    ∀ a ∈ l, l.foldl (fun m a => if own a < m then own a else m) m0 ≤ own a := by
  induction l with
  | nil => exact fun m0 => ⟨Int.le_refl _, (fun _ h => nomatch h)⟩
  | cons x xs ih =>
    intro m0
    obtain ⟨h1, h2⟩ := ih (if own x < m0 then own x else m0)
    have hx : (if own x < m0 then own x else m0) ≤ m0 ∧ (if own x < m0 then own x else m0) ≤ own x := by
      split <;> omega
    refine ⟨Int.le_trans h1 hx.1, fun a ha => ?_⟩
    rcases List.mem_cons.mp ha with rfl | ha
    · exact Int.le_trans h1 hx.2
    · exact h2 a ha

theorem allocatable_le_own (t : TA) (i : Nat) :
    allocatableShared t i ≤ ownShared t i ∧ ∀ a ∈ ancestors t.tree t.tree.length i, allocatableShared t i ≤ ownShared t a := by
  unfold allocatableShared ownShared
  exact foldl_min_le (fun j => 1000 * ((t.pools j).sharable.length : Int) - subtreeShared t j) _ _

/-- **Capacity at grant time, up the whole chain.** A shared portion is admitted only if it fits the unpromised
capacity of the granting pool and of EVERY ancestor up to the root - whatever the tree, state and request. -/
theorem portion_within_every_ancestor (t2 t' : TA) (ctr : String) (i fraction : Nat) (excl : List Nat) (g : Grant)
    (hf : 0 < fraction) (h : addPortion t2 ctr i fraction .normal excl = .ok (t', g)) :
    (fraction : Int) ≤ ownShared t2 i ∧ ∀ a ∈ ancestors t2.tree t2.tree.length i, (fraction : Int) ≤ ownShared t2 a := by
  obtain ⟨hle, _⟩ := portion_within_capacity t2 t' ctr i fraction excl g hf h
  obtain ⟨h1, h2⟩ := allocatable_le_own t2 i
  exact ⟨Int.le_trans hle h1, fun a ha => Int.le_trans hle (h2 a ha)⟩

/-! ### the descendant clause is false (known finding) -/

/-- a socket with two NUMA-node children; a Burstable container holds 1500m at node #0, then a
Guaranteed container gets both CPUs of node #0 exclusively at the socket: the model (like the
code, which checks only the pool and its ancestors) admits it and node #0 is left with 1500m
granted on zero shared CPUs. -/
def starveTree : List PoolT :=
  [⟨some 2, [], [0, 1], []⟩, ⟨some 2, [], [2, 3], []⟩, ⟨none, [], [0, 1, 2, 3], []⟩]

theorem descendant_capacity_refuted :
    (match alloc (initTA starveTree) "burstable" 0 0 1500 false .normal [] with
     | .ok (t1, g1) =>
       (match alloc (addGrant t1 g1) "guaranteed" 2 2 0 false .normal [0, 1] with
        | .ok (t2, _) => (t2.pools 0).sharable == [] && (t2.pools 0).grantedShared == 1500
        | .error _ => false)
     | .error _ => false) = true := by decide

end Nri.TA
