import Nri.Model.Guard
import Nri.Gen.HandlerGuards
import Nri.Gen.OptDerefs
/-!
C14 — no request can crash a plugin (resource-manager handlers: lookup discipline).

Proved: a handler that satisfies the static guard discipline never dereferences a failed
lookup, whatever the cache contains (`safe_never_panics`); every NRI handler of
pkg/resmgr/nri.go, as regenerated from the current source, satisfies it (`handlers_safe`),
hence none of them can panic on an id the plugin has never seen or has already forgotten
(`handlers_never_panic`).  The pre-fix shape of StopPodSandbox/RemovePodSandbox (use without a
guard) is refuted by `unguarded_use_panics`.

Totality of everything behind the lookups (annotation parsers, policies, side plugins) is
checked by the chaos correspondence runs, not proved.
-/
namespace Nri.Guard

theorem safe_never_panics (found : String → Bool) :
    ∀ (p : Prog) (g : List String), safe p g = true → (∀ v ∈ g, found v = true) → exec found p ≠ .panic := by
  intro p
  induction p with
  | done => nofun
  | lookup v k ih => exact fun g hs hg => ih _ hs fun x hx => hg x (List.mem_filter.1 hx).1
  | guardRet v k ih =>
    intro g hs hg
    rw [exec]
    split
    · exact ih _ hs (List.forall_mem_cons.2 ⟨‹_›, hg⟩)
    · nofun
  | use v k ih =>
    intro g hs hg
    obtain ⟨hv, hk⟩ := Bool.and_eq_true_iff.1 hs
    rw [exec, if_pos (hg v (List.contains_iff_mem.1 hv))]
    exact ih g hk hg
  | ifFound v body k ihb ihk =>
    intro g hs hg
    obtain ⟨hb, hk⟩ := Bool.and_eq_true_iff.1 hs
    rw [exec]
    split
    · have := ihb _ hb (List.forall_mem_cons.2 ⟨‹_›, hg⟩)
      split
      · exact ihk g hk hg
      · exact this
    · exact ihk g hk hg

theorem handlers_safe : Nri.Gen.Guards.handlers.all (fun h => safe h.2 []) = true := by decide

/-- the handlers that must be there are there (a renamed or dropped handler breaks the tie) -/
theorem handlers_present :
    (Nri.Gen.Guards.handlers.map (·.1)) = ["Synchronize", "RunPodSandbox", "StopPodSandbox", "RemovePodSandbox", "CreateContainer", "StartContainer",
      "UpdateContainer", "StopContainer", "RemoveContainer", "updateContainers", "getPendingAdjustment", "getPendingUpdates"] := rfl

/-- **No handler dereferences a failed lookup**, whatever ids the request names and whatever the
cache holds. -/
theorem handlers_never_panic (found : String → Bool) :
    ∀ h ∈ Nri.Gen.Guards.handlers, exec found h.2 ≠ .panic :=
  fun h hm => safe_never_panics found h.2 [] (List.all_eq_true.mp handlers_safe h hm) nofun

/-- the topology-aware allocation path evaluates the pod only behind a check (regenerated facts) -/
theorem ta_pod_use_guarded :
    Nri.Gen.Guards.newRequestCallers = ["allocatePool"] ∧ Nri.Gen.Guards.allocatePoolChecksPodFirst = true := ⟨rfl, rfl⟩

/-- the side plugins and the NRI handlers read optional sub-messages of NRI messages only through the nil-safe
accessors: no plain field-selector chain through `Linux`, `Resources`, `Memory`, `Cpu`, … is left (regenerated) -/
theorem no_direct_optional_derefs : Nri.Gen.OptDerefs.directDerefs = [] := rfl

/-- an unguarded use does panic for an unknown id (the shape StopPodSandbox/RemovePodSandbox had) -/
theorem unguarded_use_panics : exec (fun _ => false) (.lookup "pod" (.use "pod" .done)) = .panic := rfl

-- non-vacuity: a guarded handler on an unknown id returns, on a known id goes on
example : exec (fun _ => false) (.lookup "c" (.guardRet "c" (.use "c" .done))) = .returned ∧
          exec (fun _ => true) (.lookup "c" (.guardRet "c" (.use "c" .done))) = .next := ⟨rfl, rfl⟩

end Nri.Guard
